import GoSSE.Proofs.MessageLines
/-!
Helper lemmas for C14: what `newMessageField` guarantees, and that every value
`FieldParser.Next` hands out is part of one CR/LF-free chunk.
-/
namespace GoSSE.Proofs
open GoSSE GoSSE.Spec GoSSE.Model

theorem not_nlFree_iff (v : Bytes) : ¬ NlFree v ↔ hasNewline v = true := by
  rw [← hasNewline_eq_false]; cases hasNewline v <;> simp

theorem newMessageField_single (v : Bytes) (h : NlFree v) : newMessageField v = ({ value := v, set := true }, false) := by
  simp [newMessageField, (isSingleLine_iff v).2 h]

theorem newMessageField_multi (v : Bytes) (h : ¬ NlFree v) : newMessageField v = ({}, true) := by
  have : isSingleLine v = false := by
    cases hs : isSingleLine v with
    | false => rfl
    | true => exact absurd ((isSingleLine_iff v).1 hs) h
  simp [newMessageField, this]

theorem newMessageField_cases (v : Bytes) :
    (NlFree v ∧ newMessageField v = ({ value := v, set := true }, false)) ∨ (¬ NlFree v ∧ newMessageField v = ({}, true)) := by
  by_cases h : NlFree v
  · exact Or.inl ⟨h, newMessageField_single v h⟩
  · exact Or.inr ⟨h, newMessageField_multi v h⟩

theorem newID_single (v : Bytes) (h : NlFree v) : newID v = ({ value := v, set := true }, false) := by
  simp [newID, newMessageField_single v h]

theorem newID_multi (v : Bytes) (h : ¬ NlFree v) : newID v = ({}, true) := by
  simp [newID, newMessageField_multi v h]

theorem nlFree_drop (s : Bytes) (k : Nat) (h : NlFree s) : NlFree (s.drop k) :=
  fun b hb => h b (List.mem_of_mem_drop hb)

theorem nlFree_trimFirstSpace (s : Bytes) (h : NlFree s) : NlFree (trimFirstSpace s) := by
  unfold trimFirstSpace
  split
  · exact (nlFree_cons.1 h).2
  · exact h

theorem scanSegment_nlFree (kc : Bool) (chunk : Bytes) (fld : Field) (h : scanSegment kc chunk = some fld)
    (hc : NlFree chunk) : NlFree fld.value := by
  unfold scanSegment at h
  have hd : ∀ k, NlFree (trimFirstSpace (chunk.drop k)) := fun k => nlFree_trimFirstSpace _ (nlFree_drop _ k hc)
  split at h
  · split at h
    · cases h
    · split at h
      · cases h; exact hd _
      · split at h
        · cases h; exact nlFree_nil
        · split at h
          · cases h; exact hd _
          · cases h
  · split at h
    · cases h; exact nlFree_nil
    · split at h
      · cases h; exact nlFree_nil
      · cases h

theorem FP_next_nlFree (fuel : Nat) (f : FP) (fld : Field) (f' : FP) (h : FP.next fuel f = (some fld, f')) :
    NlFree fld.value := by
  induction fuel generalizing f with
  | zero => cases h
  | succ n ih =>
    unfold FP.next at h
    split at h
    · cases h
    · simp only at h
      split at h
      · cases h
      · split at h
        · rename_i hs
          cases h
          exact scanSegment_nlFree _ _ _ hs (nextChunk_fst_nlFree _)
        · exact ih _ h

/-- what `Message.UnmarshalText` keeps true of the receiver while it loops -/
structure FieldsOK (m : Message) : Prop where
  id : m.id.set = true → NlFree m.id.value
  typ : m.typ.set = true → NlFree m.typ.value
  chunks : ∀ c ∈ m.chunks, NlFree c.content

theorem fieldsOK_empty : FieldsOK {} :=
  { id := by intro h; simp at h, typ := by intro h; simp at h, chunks := by intro c hc; simp at hc }

theorem FieldsOK.push {m : Message} (hm : FieldsOK m) {v : Bytes} (hv : NlFree v) (ic : Bool) :
    FieldsOK { m with chunks := m.chunks ++ [⟨v, ic⟩] } := by
  refine ⟨hm.id, hm.typ, fun c hc => ?_⟩
  rcases List.mem_append.1 hc with hc | hc
  · exact hm.chunks c hc
  · rw [List.mem_singleton.1 hc]; exact hv

theorem unmarshalLoop_ok (fuel : Nat) (fp : FP) (m : Message) (hm : FieldsOK m) :
    FieldsOK (unmarshalLoop fuel fp m).1 := by
  induction fuel generalizing fp m with
  | zero => exact hm
  | succ n ih =>
    unfold unmarshalLoop
    split
    · exact hm
    · rename_i f fp' hn
      have hv := FP_next_nlFree _ _ _ _ hn
      split
      · split
        · exact hm
        · split
          · exact hm
          · exact ih _ _ ⟨hm.id, hm.typ, hm.chunks⟩
      · exact ih _ _ (hm.push hv _)
      · exact ih _ _ (hm.push hv _)
      · exact ih _ _ ⟨hm.id, fun _ => hv, hm.chunks⟩
      · split
        · exact ih _ _ hm
        · exact ih _ _ ⟨fun _ => hv, hm.typ, hm.chunks⟩
      · exact hm

theorem unmarshalText_ok (p : Bytes) : FieldsOK (Message.unmarshalText p).1 := by
  unfold Message.unmarshalText
  have := unmarshalLoop_ok (p.length + 1) (({ data := p, keepComments := true } : FP).setRemoveBOM true) {} fieldsOK_empty
  simp only
  split
  · exact this
  · split
    · exact fieldsOK_empty
    · exact this

end GoSSE.Proofs
