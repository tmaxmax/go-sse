import GoSSE.Proofs.ParserFP
import GoSSE.Proofs.ParserScan
import GoSSE.Proofs.ParserStop
/-!
`Parser.next` and the loop of `read()` against the specification machine.
-/
namespace GoSSE.Proofs
open GoSSE GoSSE.Spec GoSSE.Model

theorem bom_noNl : NlFree bom := by simp [NlFree, bom, isNl]

theorem isPrefixOf_lastIsNl {P T : Bytes} (X : Bytes) (hP : NlFree P) (hT : LastIsNl T) :
    P.isPrefixOf (T ++ X) = P.isPrefixOf T := by
  obtain ⟨b, hb1, hb2⟩ := hT
  rw [Bool.eq_iff_iff, List.isPrefixOf_iff_prefix, List.isPrefixOf_iff_prefix]
  refine ⟨fun h => ?_, fun h => h.trans (List.prefix_append T X)⟩
  rcases List.prefix_or_prefix_of_prefix h (List.prefix_append T X) with h1 | h1
  · exact h1
  · have := hP b (h1.subset (List.mem_of_getLast? hb1))
    rw [hb2] at this; cases this

theorem lastIsNl_strip {X Z T nl : Bytes} (hX : NlFree X) (hT : LastIsNl T) (h : T ++ nl = X ++ Z) :
    ∃ T', Z = T' ++ nl ∧ LastIsNl T' ∧ T'.getLast? = T.getLast? := by
  obtain ⟨b, hb1, hb2⟩ := hT
  have hb : b ∉ X := fun hm => by rw [hX b hm] at hb2; cases hb2
  rcases List.append_eq_append_iff.1 h with ⟨a, h1, _⟩ | ⟨T', h1, h2⟩
  · exact absurd (h1 ▸ List.mem_append_left a (List.mem_of_getLast? hb1)) hb
  · have hl : T'.getLast? = T.getLast? := by
      cases T' with
      | nil => exact absurd (by rw [h1, List.append_nil] at hb1; exact List.mem_of_getLast? hb1) hb
      | cons c t => rw [h1, List.getLast?_append, List.getLast?_cons]; rfl
    exact ⟨T', h2, ⟨b, hl.trans hb1, hb2⟩, hl⟩

theorem stripBOM_append (T Y : Bytes) (hT : LastIsNl T) : stripBOM (T ++ Y) = stripBOM T ++ Y := by
  unfold stripBOM
  rw [isPrefixOf_lastIsNl Y bom_noNl hT]
  split
  · rename_i h
    exact List.drop_append_of_le_length (List.isPrefixOf_iff_prefix.1 h).length_le
  · rfl

theorem stripBOM_split (l : Bytes) : ∃ X, NlFree X ∧ l = X ++ stripBOM l := by
  unfold stripBOM
  split
  · rename_i h
    exact ⟨bom, bom_noNl, (List.prefix_iff_eq_append.1 (List.isPrefixOf_iff_prefix.1 h)).symm⟩
  · exact ⟨[], nofun, rfl⟩

theorem stripBOM_bom (Z : Bytes) : stripBOM (bom ++ Z) = Z := rfl

theorem stripBOM_not (Z : Bytes) (h : bom.isPrefixOf Z = false) : stripBOM Z = Z := by
  rw [stripBOM, h]; rfl

theorem stripBOM_nl (b : Byte) (t : Bytes) (hb : isNl b = true) : stripBOM (b :: t) = b :: t := by
  refine stripBOM_not _ ?_
  rcases (isNl_true_iff b).1 hb with h | h <;> subst h <;> rfl

theorem reset_fresh (fp : FP) (tok : Bytes) (hs : fp.removeBOM = true) :
    fp.reset tok = { fp with data := stripBOM tok, err := false, started := bom.isPrefixOf tok } := by
  unfold FP.reset FP.doRemoveBOM stripBOM
  simp only [hs, Bool.not_false, Bool.true_and]
  split <;> rename_i h
  · rw [h]
  · rw [Bool.eq_false_iff.2 h]

def pending (p : Parser) : Bytes := p.fp.data ++ remaining p.sc
/-- fuel measure of the parser -/
def nu (p : Parser) : Nat := weight p.sc + p.fp.data.length
/-- the scanner has delivered everything -/
def Final (s : Scanner) : Prop := s.data = [] ∧ s.err.isSome = true
/-- the BOM question is settled -/
def Normal (p : Parser) : Prop :=
  p.fp.data ≠ [] ∨ p.fp.started = true ∨ p.skippedBlankLines = true ∨ p.fp.removeBOM = false

/-- invariant at the head of the loops of `Parser.next` and `read()`; the specification machine
is in state `⟨toI st, [], sk⟩` and `pending p` is what both still have to process -/
structure PInv (conn : Bool) (p : Parser) (st : RState) (sk : Bool) : Prop where
  sc : SInv p.sc
  gone : p.gone = false
  kc : p.fp.keepComments = false
  err : p.fp.err = false
  normal : Normal p
  clean : CleanInv st
  skip : sk = true → p.fp.data.head? ≠ some 10
  tokEnd : Final p.sc ∨ ((feed conn ⟨toI st, [], sk⟩ p.fp.data).1.acc = [] ∧
    Boundary (feed conn ⟨toI st, [], sk⟩ p.fp.data).1.ist)

/-- `PInv` without `normal`: what holds at the head of the loop of `Parser.next` at the very first call too -/
structure PInvCore (conn : Bool) (p : Parser) (st : RState) (sk : Bool) : Prop where
  sc : SInv p.sc
  gone : p.gone = false
  kc : p.fp.keepComments = false
  err : p.fp.err = false
  clean : CleanInv st
  skip : sk = true → p.fp.data.head? ≠ some 10
  tokEnd : Final p.sc ∨ ((feed conn ⟨toI st, [], sk⟩ p.fp.data).1.acc = [] ∧
    Boundary (feed conn ⟨toI st, [], sk⟩ p.fp.data).1.ist)

theorem PInv.core {conn : Bool} {p : Parser} {st : RState} {sk : Bool} (h : PInv conn p st sk) :
    PInvCore conn p st sk :=
  ⟨h.sc, h.gone, h.kc, h.err, h.clean, h.skip, h.tokEnd⟩

theorem fp_install_normal (fp : FP) (skipped : Bool) (tok : Bytes)
    (h : fp.started = true ∨ skipped = true ∨ fp.removeBOM = false) :
    (if fp.started || skipped then fp.setRemoveBOM false else fp).reset tok =
      { data := tok, err := false, started := false, keepComments := fp.keepComments, removeBOM := false } := by
  obtain ⟨d, e, s, k, r⟩ := fp
  simp only at h
  by_cases hc : (s || skipped) = true
  · simp [hc, FP.setRemoveBOM, FP.reset, FP.doRemoveBOM]
  · have hr : r = false := by
      rcases h with h | h | h
      · simp [h] at hc
      · simp [h] at hc
      · exact h
    subst hr
    simp [hc, FP.reset, FP.doRemoveBOM]

/-- what a call of `Parser.next` does, for the bytes `W` that were pending -/
inductive NextRes (conn : Bool) (W : Bytes) (n : Nat) (s0 : Scanner) (st : RState) (sk : Bool) :
    Option Field × Parser → Prop
  | field (fld : Field) (p' : Parser) (C : Bytes) (sk' : Bool)
      (hW : W = C ++ pending p')
      (hfeed : feed conn ⟨toI st, [], sk⟩ C =
        (⟨toI (readField conn st fld).1, [], sk'⟩, (readField conn st fld).2))
      (hinv : PInv conn p' (readField conn st fld).1 sk')
      (hnu : nu p' < n) (hcfg : SameCfg s0 p'.sc) : NextRes conn W n s0 st sk (some fld, p')
  | tooLong (p' : Parser) (herr : p'.sc.err = some .tooLong) (hgone : p'.gone = false)
      (hcfg : SameCfg s0 p'.sc) : NextRes conn W n s0 st sk (none, p')
  | done (p' : Parser) (sk' : Bool)
      (hfeed : feed conn ⟨toI st, [], sk⟩ W = (⟨toI st, p'.fp.data.reverse, sk'⟩, []))
      (herr : p'.sc.err = some (endE s0.src)) (hgone : p'.gone = (p'.sc.err == some .eof))
      (hfp : p'.fp.err = !p'.fp.data.isEmpty) (hcfg : SameCfg s0 p'.sc) : NextRes conn W n s0 st sk (none, p')

theorem NextRes.transport {conn : Bool} {W W1 C0 : Bytes} {n n1 : Nat} {s0 s1 : Scanner} {st : RState}
    {sk sk1 : Bool} {r : Option Field × Parser}
    (h : NextRes conn W1 n1 s1 st sk1 r) (hW : W = C0 ++ W1)
    (hfeed : feed conn ⟨toI st, [], sk⟩ C0 = (⟨toI st, [], sk1⟩, [])) (hn : n1 ≤ n) (hcfg : SameCfg s0 s1) :
    NextRes conn W n s0 st sk r := by
  cases h with
  | field fld p' C sk' h1 h2 h3 h4 h5 =>
    refine .field fld p' (C0 ++ C) sk' (by rw [hW, h1, List.append_assoc]) ?_ h3 (by omega) (hcfg.trans h5)
    rw [feed_append, hfeed, h2]; simp
  | tooLong p' h1 h2 h3 => exact .tooLong p' h1 h2 (hcfg.trans h3)
  | done p' sk' h1 h2 h3 h4 h5 =>
    refine .done p' sk' ?_ (by rw [h2, hcfg.endE]) h3 h4 (hcfg.trans h5)
    rw [hW, feed_append, hfeed, h1]; simp

theorem not_normal {p : Parser} : ¬ Normal p ↔
    p.fp.data = [] ∧ p.fp.started = false ∧ p.skippedBlankLines = false ∧ p.fp.removeBOM = true := by
  simp only [Normal, not_or, ne_eq, Decidable.not_not, Bool.not_eq_true, Bool.not_eq_false]

theorem remaining_final {s : Scanner} (hinv : SInv s) (h : Final s) : remaining s = [] := by
  obtain ⟨e, he⟩ := Option.isSome_iff_exists.1 h.2
  rw [remaining, h.1, (hinv.errEnd e he).2]; rfl

theorem nu_lt_of_consumed {p : Parser} {fp' : FP} {C : Bytes} (h : p.fp.data = C ++ fp'.data) (hC : C ≠ []) :
    nu { p with fp := fp' } < nu p := by
  have hlen := congrArg List.length h
  have := List.length_pos_iff.2 hC
  simp only [List.length_append] at hlen
  simp only [nu]; omega

theorem nu_le_of_token {p p1 : Parser} {adv : Nat} (hwt : weight p1.sc + adv ≤ weight p.sc)
    (hlen : p1.fp.data.length ≤ adv) : nu p1 ≤ nu p := by
  simp only [nu]; omega

/-- `X`: the BOM that `Reset` has dropped from the token, or `[]` -/
theorem token_end (conn : Bool) (m : M) (hm : m.WF) {sc : Scanner} {D tok X Z : Bytes} {adv : Nat}
    (hsplit : splitFunc D sc.err.isSome = (adv, some tok)) (hsd : sc.data = D.drop adv)
    (hX : NlFree X) (htok : tok = X ++ Z) :
    Final sc ∨ ((feed conn m Z).1.acc = [] ∧ Boundary (feed conn m Z).1.ist) := by
  obtain ⟨B, hD, hB, hadv, hpos, hhead, hshape⟩ := tok_shape D _ adv tok hsplit
  rcases hshape with ⟨T, nl, rest, ht, hl, hcr, hnl⟩ | ⟨he, ha⟩
  · right
    obtain ⟨T', rfl, hl', hlast⟩ := lastIsNl_strip hX hl (ht.symm.trans htok)
    exact feed_token_boundary conn m T' nl rest hm hl' (by rw [hlast]; exact hcr) hnl
  · exact .inl ⟨by rw [hsd, ha]; simp, he⟩

theorem stripBOM_token {sc : Scanner} {D tok : Bytes} {adv : Nat}
    (hsplit : splitFunc D sc.err.isSome = (adv, some tok)) (hsd : sc.data = D.drop adv) (hinv : SInv sc) :
    stripBOM (tok ++ remaining sc) = stripBOM tok ++ remaining sc := by
  obtain ⟨B, hD, hB, hadv, hpos, hhead, hshape⟩ := tok_shape D _ adv tok hsplit
  rcases hshape with ⟨T, nl, rest, ht, hl, hcr, hnl⟩ | ⟨he, ha⟩
  · exact stripBOM_append tok _ (ht ▸ hnl.lastIsNl T)
  · rw [remaining_final hinv ⟨by rw [hsd, ha]; simp, he⟩, List.append_nil, List.append_nil]

theorem pending_token {p : Parser} {sc' : Scanner} {D B tok : Bytes} {adv : Nat}
    (hrem : remaining p.sc = D ++ sc'.src.chunks.flatten) (hdata : sc'.data = D.drop adv)
    (hD : D = B ++ tok ++ D.drop adv) : pending p = (p.fp.data ++ B) ++ (tok ++ remaining sc') := by
  rw [pending, hrem, remaining, hdata]
  conv => lhs; rw [hD]
  simp only [List.append_assoc]

/-- A token arrives when the BOM question is settled, or after blank lines: the field parser gets it as it is. -/
theorem onToken_normal (conn : Bool) {st : RState} {p : Parser} {sk sk1 : Bool} {W D tok : Bytes} {adv : Nat}
    {fp' : FP} {sc' : Scanner} (hcore : PInvCore conn p st sk)
    (hW : Normal p ∧ W = pending p ∨ ¬ Normal p ∧ sk = false ∧ W = stripBOM (pending p))
    (hkc : fp'.keepComments = p.fp.keepComments) (hbom : fp'.removeBOM = p.fp.removeBOM)
    (hstarted : fp'.started = (p.fp.started || !p.fp.data.isEmpty))
    (hfeed : feed conn ⟨toI st, [], sk⟩ p.fp.data = (⟨toI st, [], sk1⟩, [])) (hb : Boundary (toI st))
    (hrem : remaining p.sc = D ++ sc'.src.chunks.flatten) (hsplit : splitFunc D sc'.err.isSome = (adv, some tok))
    (hdata : sc'.data = D.drop adv) (hinv' : SInv sc') (hN : Normal p ∨ adv > tok.length) :
    ∃ C0 sk2, PInv conn (onToken p fp' sc' adv tok) st sk2 ∧ W = C0 ++ pending (onToken p fp' sc' adv tok) ∧
      feed conn ⟨toI st, [], sk⟩ C0 = (⟨toI st, [], sk2⟩, []) ∧ (onToken p fp' sc' adv tok).fp.data.length ≤ adv := by
  obtain ⟨B, hD, hB, hadv, _, hhead, _⟩ := tok_shape D _ adv tok hsplit
  have hpend := pending_token hrem hdata hD
  have hinst : fp'.started = true ∨ (p.skippedBlankLines || decide (adv > tok.length)) = true ∨
      fp'.removeBOM = false := by
    rcases hN with (h | h | h | h) | h
    · left; rw [hstarted, List.isEmpty_eq_false_iff.2 h]; exact Bool.or_true _
    · left; rw [hstarted, h]; rfl
    · right; left; rw [h]; rfl
    · right; right; rw [hbom, h]
    · right; left; rw [decide_eq_true h]; exact Bool.or_true _
  have hWp : W = pending p := by
    rcases hW with ⟨_, h⟩ | ⟨hn, _, h⟩
    · exact h
    · -- blank lines in front of the first token: no BOM at the start of the stream
      rw [h, hpend, (not_normal.1 hn).1]
      cases B with
      | nil => exact absurd hN (not_or.2 ⟨hn, by rw [hadv, List.length_nil, Nat.zero_add]; exact Nat.lt_irrefl _⟩)
      | cons b B' => exact stripBOM_nl b _ (hB b (by simp))
  obtain ⟨sk2, hbl⟩ := feed_blanks conn (toI st) sk1 B hb hB
  have hC0 : feed conn ⟨toI st, [], sk⟩ (p.fp.data ++ B) = (⟨toI st, [], sk2⟩, []) := by
    rw [feed_append, hfeed]; simp only [hbl, List.append_nil]
  unfold onToken
  rw [fp_install_normal fp' _ tok hinst]
  exact ⟨p.fp.data ++ B, sk2,
    ⟨hinv', hcore.gone, hkc.trans hcore.kc, rfl, .inr (.inr (.inr rfl)), hcore.clean, fun _ => hhead,
      token_end conn ⟨toI st, [], sk2⟩ (fun _ => rfl) hsplit hdata (X := []) nofun rfl⟩,
    hWp.trans hpend, hC0, hadv ▸ Nat.le_add_left _ _⟩

/-- The first token of the stream arrives, at its very start: the field parser gets it without the BOM. -/
theorem onToken_bom (conn : Bool) {st : RState} {p : Parser} {sk : Bool} {W D tok : Bytes} {adv : Nat}
    {fp' : FP} {sc' : Scanner} (hcore : PInvCore conn p st sk)
    (hn : ¬ Normal p) (hsk : sk = false) (hW : W = stripBOM (pending p))
    (hkc : fp'.keepComments = p.fp.keepComments) (hbom : fp'.removeBOM = p.fp.removeBOM)
    (hstarted : fp'.started = (p.fp.started || !p.fp.data.isEmpty))
    (hrem : remaining p.sc = D ++ sc'.src.chunks.flatten) (hsplit : splitFunc D sc'.err.isSome = (adv, some tok))
    (hdata : sc'.data = D.drop adv) (hinv' : SInv sc') (hnb : ¬ adv > tok.length) :
    PInv conn (onToken p fp' sc' adv tok) st sk ∧ W = pending (onToken p fp' sc' adv tok) ∧
      (onToken p fp' sc' adv tok).fp.data.length ≤ adv := by
  obtain ⟨B, hD, hB, hadv, hpos, _, _⟩ := tok_shape D _ adv tok hsplit
  have hpend := pending_token hrem hdata hD
  obtain ⟨hd, hs, hk, hr⟩ := not_normal.1 hn
  obtain rfl : B = [] := List.eq_nil_of_length_eq_zero (by omega)
  rw [List.length_nil, Nat.zero_add] at hadv
  have hc : (fp'.started || (p.skippedBlankLines || decide (adv > tok.length))) = false := by
    rw [hstarted, hs, hd, hk, decide_eq_false hnb]; rfl
  unfold onToken
  rw [hc, if_neg Bool.false_ne_true, reset_fresh fp' tok (hbom.trans hr)]
  obtain ⟨X, hX, htok⟩ := stripBOM_split tok
  have hlen := congrArg List.length htok
  have hnorm : stripBOM tok ≠ [] ∨ bom.isPrefixOf tok = true := by
    by_cases hbom : bom.isPrefixOf tok = true
    · exact .inr hbom
    · left; rw [stripBOM_not tok (Bool.eq_false_iff.2 hbom)]; exact List.ne_nil_of_length_pos (hadv ▸ hpos)
  refine ⟨⟨hinv', hcore.gone, hkc.trans hcore.kc, rfl, hnorm.imp_right .inl, hcore.clean, by rw [hsk]; nofun,
      token_end conn ⟨toI st, [], sk⟩ (fun _ => rfl) hsplit hdata hX htok⟩, ?_, ?_⟩
  · rw [hW, hpend, hd]
    exact stripBOM_token hsplit hdata hinv'
  · rw [hadv, hlen, List.length_append]
    exact Nat.le_add_left _ _

theorem parserNext_step (conn : Bool) (st : RState) (fuel : Nat) (p : Parser) (sk : Bool) (W : Bytes)
    (hcore : PInvCore conn p st sk)
    (hW : Normal p ∧ W = pending p ∨ ¬ Normal p ∧ sk = false ∧ W = stripBOM (pending p))
    (hfuel : weight p.sc ≤ fuel)
    (hcont : ∀ p1 sk1, PInv conn p1 st sk1 → weight p1.sc + 1 ≤ fuel →
      NextRes conn (pending p1) (nu p1) p1.sc st sk1 (Parser.next fuel p1)) :
    NextRes conn W (nu p) p.sc st sk (Parser.next (fuel + 1) p) := by
  have hpost := FP_next_feed conn (p.fp.data.length + 1) p.fp st sk hcore.kc (Nat.lt_succ_self _) hcore.clean hcore.skip
  generalize hR : FP.next (p.fp.data.length + 1) p.fp = R at hpost
  cases hpost with
  | field fld fp' C sk' hkc hbom hdata hC hfeed hskip hclean' herr hstarted =>
    have hWp : W = pending p := by
      rcases hW with ⟨_, h⟩ | ⟨hn, _⟩
      · exact h
      · rw [(not_normal.1 hn).1] at hdata
        exact absurd (List.append_eq_nil_iff.1 hdata.symm).1 hC
    rw [parserNext_succ_some fuel p fld fp' hR, hWp]
    refine .field fld _ C sk' ?_ hfeed
      ⟨hcore.sc, hcore.gone, hkc.trans hcore.kc, herr.trans hcore.err, .inr (.inl hstarted), hclean', hskip, ?_⟩
      (nu_lt_of_consumed hdata hC) (SameCfg.refl _)
    · simp only [pending]; rw [hdata, List.append_assoc]
    · refine hcore.tokEnd.imp_right fun ⟨ha, hb⟩ => ?_
      rw [hdata, feed_append, hfeed] at ha hb
      exact ⟨ha, hb⟩
  | rest fp' sk1 hkc hbom hfeed _ herr hstarted =>
    have hscan := scan_spec_parser p.sc hcore.sc
    generalize hS : Scanner.scan (p.sc.src.size + p.sc.data.length + 4) p.sc = S at hscan
    cases hscan with
    | done sc' herr' hrem hdata hsrc _ hcfg =>
      rw [parserNext_succ_none_none fuel p fp' sc' hR hS]
      have hWp : W = p.fp.data := by
        rcases hW with ⟨_, h⟩ | ⟨hn, _, h⟩
        · rw [h, pending, hrem, List.append_nil]
        · rw [h, pending, hrem, (not_normal.1 hn).1]; rfl
      refine .done _ sk1 (hWp ▸ hfeed) herr' rfl ?_ hcfg
      simp only [herr, hcore.err, Bool.false_or]
    | tooLong D sc' herr' hnone hrem hsplit hdata hfull hlim hcfg =>
      rw [parserNext_succ_none_none fuel p fp' sc' hR hS]
      exact .tooLong _ herr' (by rw [herr']; rfl) hcfg
    | tok D adv tok sc' hrem hsplit hdata hinv' hcfg hwt =>
      rw [parserNext_succ_none_tok fuel p fp' sc' adv tok hR hS]
      have hpos : 0 < adv := (tok_shape D _ adv tok hsplit).elim fun _ h => h.2.2.2.1
      -- a token has come, so the previous one was not the last: the field parser has used it up
      have hnf : ¬ Final p.sc := by
        intro hF
        rw [remaining_final hcore.sc hF] at hrem
        have hle := sf_adv_le D sc'.err.isSome
        rw [hsplit, (List.append_eq_nil_iff.1 hrem.symm).1] at hle
        exact Nat.not_lt.2 hle hpos
      obtain ⟨ha, hb⟩ := hcore.tokEnd.resolve_left hnf
      rw [hfeed] at ha hb
      rw [List.reverse_eq_nil_iff.1 ha] at hfeed
      have hfuel1 : weight sc' + 1 ≤ fuel := Nat.le_trans (Nat.add_le_add_left hpos _) (Nat.le_trans hwt hfuel)
      by_cases hN : Normal p ∨ adv > tok.length
      · obtain ⟨C0, sk2, hinv1, hW1, hfeed1, hlen⟩ :=
          onToken_normal conn hcore hW hkc hbom hstarted hfeed hb hrem hsplit hdata hinv' hN
        exact (hcont _ sk2 hinv1 hfuel1).transport hW1 hfeed1 (nu_le_of_token hwt hlen) hcfg
      · obtain ⟨_, hsk0, hWs⟩ := hW.resolve_left fun h => hN (.inl h.1)
        obtain ⟨hinv1, hW1, hlen⟩ := onToken_bom conn hcore (fun h => hN (.inl h)) hsk0 hWs hkc hbom hstarted
          hrem hsplit hdata hinv' (fun h => hN (.inr h))
        exact (hcont _ sk hinv1 hfuel1).transport (C0 := []) hW1 rfl (nu_le_of_token hwt hlen) hcfg

theorem parserNext_normal (conn : Bool) (st : RState) (fuel : Nat) (p : Parser) (sk : Bool)
    (hinv : PInv conn p st sk) (hfuel : weight p.sc + 1 ≤ fuel) :
    NextRes conn (pending p) (nu p) p.sc st sk (Parser.next fuel p) := by
  induction fuel generalizing p sk with
  | zero => omega
  | succ fuel ih =>
    exact parserNext_step conn st fuel p sk _ hinv.core (.inl ⟨hinv.normal, rfl⟩) (by omega) ih

/-- the very first call of `Parser.next`: this is where the BOM is dealt with -/
theorem parserNext_fresh (conn : Bool) (st : RState) (fuel : Nat) (p : Parser)
    (hfp : p.fp = { removeBOM := true }) (hskipped : p.skippedBlankLines = false) (hgone : p.gone = false)
    (hsc : SInv p.sc) (hclean : CleanInv st) (hb : Boundary (toI st)) (hfuel : weight p.sc + 1 ≤ fuel) :
    NextRes conn (stripBOM (remaining p.sc)) (nu p) p.sc st false (Parser.next fuel p) := by
  cases fuel with
  | zero => omega
  | succ fuel =>
    have hd : p.fp.data = [] := by rw [hfp]
    refine parserNext_step conn st fuel p false _
      ⟨hsc, hgone, by rw [hfp], by rw [hfp], hclean, nofun, .inr (by rw [hd]; exact ⟨rfl, hb⟩)⟩
      (.inr ⟨not_normal.2 ⟨hd, by rw [hfp], hskipped, by rw [hfp]⟩, rfl, by rw [pending, hd]; rfl⟩) (by omega)
      fun p1 sk1 => parserNext_normal conn st fuel p1 sk1

/-- the error `Parser.Err` reports at the end of the input -/
def parserEndErr (endErr : Bool) (acc : Bytes) : PErr :=
  if endErr then .read else if acc ≠ [] then .unexpectedEOF else .eof

/-- what the loop of `read()` (never stopped by the consumer) achieves from a state where the
specification machine is in `⟨toI st, [], sk⟩` with `W` still to be read -/
inductive RunRes (conn : Bool) (W : Bytes) (s0 : Scanner) (st : RState) (sk : Bool) (outs : List Out) :
    Parser × RState × List Out × Bool → Prop
  | tooLong (p' : Parser) (st' : RState) (t : List Out) (herr : p'.err = PErr.tooLong)
      (hpre : t <+: (feed conn ⟨toI st, [], sk⟩ W).2) : RunRes conn W s0 st sk outs (p', st', outs ++ t, false)
  | done (p' : Parser) (st' : RState) (hst : toI st' = (feed conn ⟨toI st, [], sk⟩ W).1.ist)
      (herr : p'.err = parserEndErr s0.src.endErr (feed conn ⟨toI st, [], sk⟩ W).1.acc) :
      RunRes conn W s0 st sk outs (p', st', outs ++ (feed conn ⟨toI st, [], sk⟩ W).2, false)

theorem readLoop_of_next (conn : Bool) (fuel : Nat) (p : Parser) (st : RState) (sk : Bool) (outs : List Out)
    (W : Bytes) (n : Nat)
    (hnext : NextRes conn W n p.sc st sk (p.next (p.sc.src.size + p.sc.data.length + 4)))
    (hcont : ∀ p' st' sk' outs', PInv conn p' st' sk' → nu p' < n →
      RunRes conn (pending p') p'.sc st' sk' outs' (readLoop conn none fuel p' st' outs')) :
    RunRes conn W p.sc st sk outs (readLoop conn none (fuel + 1) p st outs) := by
  generalize hR : p.next (p.sc.src.size + p.sc.data.length + 4) = R at hnext
  cases hnext with
  | field fld p' C sk' hW hfeed hinv hnu hcfg =>
    rw [readLoop_succ_some_none _ _ _ _ _ _ _ hR]
    have h2 := hcont p' _ sk' (outs ++ (readField conn st fld).2) hinv hnu
    have hF : feed conn ⟨toI st, [], sk⟩ W =
        ((feed conn ⟨toI (readField conn st fld).1, [], sk'⟩ (pending p')).1,
          (readField conn st fld).2 ++ (feed conn ⟨toI (readField conn st fld).1, [], sk'⟩ (pending p')).2) := by
      rw [hW, feed_append, hfeed]
    have hF1 := congrArg Prod.fst hF
    have hF2 := congrArg Prod.snd hF
    dsimp only at hF1 hF2
    generalize readLoop conn none fuel p' _ _ = R2 at h2
    cases h2 with
    | tooLong p2 st2 t herr hpre =>
      rw [List.append_assoc]
      exact .tooLong p2 st2 _ herr (by rw [hF2]; exact (List.prefix_append_right_inj _).2 hpre)
    | done p2 st2 hst herr =>
      rw [List.append_assoc, ← hF2]
      exact .done p2 st2 (by rw [hF1]; exact hst) (by rw [hF1, ← hcfg.endErr]; exact herr)
  | tooLong p' herr hgone hcfg =>
    rw [readLoop_succ_none _ _ _ _ _ _ _ hR]
    have h := RunRes.tooLong (conn := conn) (W := W) (s0 := p.sc) (st := st) (sk := sk) (outs := outs) p' st []
      (by simp [Parser.err, hgone, herr]) List.nil_prefix
    rwa [List.append_nil] at h
  | done p' sk' hfeed herr hgone hfp hcfg =>
    rw [readLoop_succ_none _ _ _ _ _ _ _ hR]
    have h := RunRes.done (conn := conn) (W := W) (s0 := p.sc) (st := st) (sk := sk) (outs := outs) p' st
      (by rw [hfeed]) (by
        rw [hfeed]
        simp only [Parser.err, hgone, herr, hfp, parserEndErr, endE]
        cases p.sc.src.endErr <;> cases hd : p'.fp.data <;> simp)
    rwa [hfeed, List.append_nil] at h

theorem readLoop_normal (conn : Bool) (fuel : Nat) (p : Parser) (st : RState) (sk : Bool) (outs : List Out)
    (hinv : PInv conn p st sk) (hfuel : nu p + 1 ≤ fuel) :
    RunRes conn (pending p) p.sc st sk outs (readLoop conn none fuel p st outs) := by
  induction fuel generalizing p st sk outs with
  | zero => omega
  | succ fuel ih =>
    refine readLoop_of_next conn fuel p st sk outs (pending p) (nu p)
      (parserNext_normal conn st _ p sk hinv (by simp only [weight]; omega)) ?_
    intro p' st' sk' outs' hinv' hnu
    exact ih p' st' sk' outs' hinv' (by omega)

theorem readLoop_fresh (conn : Bool) (fuel : Nat) (p : Parser) (st : RState) (outs : List Out)
    (hfp : p.fp = { removeBOM := true }) (hskipped : p.skippedBlankLines = false) (hgone : p.gone = false)
    (hsc : SInv p.sc) (hclean : CleanInv st) (hb : Boundary (toI st)) (hfuel : nu p + 1 ≤ fuel) :
    RunRes conn (stripBOM (remaining p.sc)) p.sc st false outs (readLoop conn none fuel p st outs) := by
  cases fuel with
  | zero => omega
  | succ fuel =>
    refine readLoop_of_next conn fuel p st false outs _ (nu p)
      (parserNext_fresh conn st _ p hfp hskipped hgone hsc hclean hb (by simp only [weight]; omega)) ?_
    intro p' st' sk' outs' hinv' hnu
    exact readLoop_normal conn fuel p' st' sk' outs' hinv' (by omega)

/-- the error `Read` (`conn = false`) / `Connection.read` (`conn = true`) yields for the
specification's end condition -/
def endErr (conn : Bool) : EndCond → PErr
  | .clean => if conn then .eof else .none
  | .unexpectedEOF => .unexpectedEOF
  | .readErr => .read

theorem finish_conforms (conn : Bool) (W : Bytes) (s0 : Scanner) (st : RState) (sk : Bool) (outs : List Out)
    (R : Parser × RState × List Out × Bool) (hres : RunRes conn W s0 st sk outs R) :
    let r := finish conn none R
    let sp := endRule (feed conn ⟨toI st, [], sk⟩ W) (if s0.src.endErr then .err else .eof)
    (r.2.1 = PErr.tooLong ∧ r.1 <+: outs ++ sp.1) ∨ (r.1 = outs ++ sp.1 ∧ r.2.1 = endErr conn sp.2) := by
  dsimp only
  cases hres with
  | tooLong p' st' t he hpre =>
    left
    rw [finish_clean conn none p' st' _ (by rw [he]; exact Bool.and_false _), he]
    exact ⟨rfl, (List.prefix_append_right_inj outs).2 (hpre.trans (endRule_prefix _ _))⟩
  | done p' st' hi he =>
    right
    generalize feed conn ⟨toI st, [], sk⟩ W = F at hi he ⊢
    generalize s0.src.endErr = e at he ⊢
    have hdirty : st'.dirty = F.1.ist.dirty := congrArg IState.dirty hi
    have hev : doYield st' = mkEvent F.1.ist := by rw [← hi]; rfl
    cases e with
    | true =>
      rw [finish_clean conn none p' st' _ (by rw [he]; exact Bool.and_false _), he]
      exact ⟨rfl, rfl⟩
    | false =>
      rw [parserEndErr, if_neg Bool.false_ne_true] at he
      rw [if_neg Bool.false_ne_true, endRule]
      by_cases hacc : F.1.acc = []
      · rw [if_neg (fun h => h hacc)] at he ⊢
        cases hd : F.1.ist.dirty with
        | true =>
          rw [finish_dirty conn none p' st' _ (by rw [hdirty, hd, he]; rfl), he, hev, stopped_none, if_pos rfl,
            List.append_assoc]
          exact ⟨rfl, by cases conn <;> rfl⟩
        | false =>
          rw [finish_clean conn none p' st' _ (by rw [hdirty, hd]; rfl), he, if_neg Bool.false_ne_true]
          exact ⟨rfl, by cases conn <;> rfl⟩
      · rw [if_pos hacc] at he ⊢
        rw [finish_clean conn none p' st' _ (by rw [he]; exact Bool.and_false _), he]
        exact ⟨rfl, rfl⟩

theorem implRun_conforms (conn : Bool) (lastID : Bytes) (src : Source) (cfg : Option (Nat × Int)) :
    let r := implRun conn lastID src cfg none
    let sp := Spec.run .gosse conn lastID src.chunks.flatten (if src.endErr then .err else .eof)
    (r.2.1 = PErr.tooLong ∧ r.1 <+: sp.1) ∨ (r.1 = sp.1 ∧ r.2.1 = endErr conn sp.2) := by
  obtain ⟨hsinv, hrem, hsrc, hdata⟩ := mkScanner_facts src cfg
  have hrun := readLoop_fresh conn (src.size + 4) { sc := mkScanner src cfg } { lastID := lastID } []
    rfl rfl rfl hsinv (by simp [CleanInv]) (by simp [Boundary, toI])
    (by simp only [nu, weight, hsrc, hdata]; simp)
  have h := finish_conforms conn _ _ _ _ [] _ hrun
  rw [hrem, hsrc] at h
  rw [run_eq_feed]
  exact h

end GoSSE.Proofs
