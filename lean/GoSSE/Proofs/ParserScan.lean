import GoSSE.Proofs.ParserSplit
/-!
The `bufio.Scanner` model: what one call of `Scanner.scan` returns, in terms of the bytes that
remain to be delivered.
-/
namespace GoSSE.Proofs
open GoSSE GoSSE.Spec GoSSE.Model

theorem foldl_size (l : List Bytes) (a : Nat) :
    l.foldl (fun n c => n + c.length + 1) a = a + l.foldl (fun n c => n + c.length + 1) 0 := by
  induction l generalizing a with
  | nil => simp
  | cons c t ih => simp only [List.foldl_cons]; rw [ih, ih (0 + c.length + 1)]; omega

theorem Source.size_cons (s : Source) (c : Bytes) (t : List Bytes) (h : s.chunks = c :: t) :
    s.size = c.length + 1 + ({ s with chunks := t } : Source).size := by
  simp only [Source.size, h, List.foldl_cons]; rw [foldl_size]; omega

/-- the error the source ends with -/
def endE (src : Source) : SErr := if src.endErr then .read else .eof

inductive ReadRes (s : Source) (free : Nat) : Bytes × Option SErr × Source → Prop
  | empty (h : s.chunks = []) : ReadRes s free ([], some (endE s), s)
  /-- the last chunk, delivered together with the error -/
  | last (c : Bytes) (h : s.chunks = [c]) (hfit : c.length ≤ free) :
      ReadRes s free (c, some (endE s), { s with chunks := [] })
  | whole (c : Bytes) (rest : List Bytes) (h : s.chunks = c :: rest) (hfit : c.length ≤ free) :
      ReadRes s free (c, none, { s with chunks := rest })
  | cut (c : Bytes) (rest : List Bytes) (h : s.chunks = c :: rest) (hlt : free < c.length) :
      ReadRes s free (c.take free, none, { s with chunks := c.drop free :: rest })

theorem read_cases (s : Source) (free : Nat) : ReadRes s free (s.read free) := by
  unfold Source.read
  cases hc : s.chunks with
  | nil => exact .empty hc
  | cons c rest =>
    simp only
    by_cases hfit : c.length ≤ free
    · rw [if_pos hfit]
      by_cases hlast : (rest.isEmpty && s.errWithLast) = true
      · rw [if_pos hlast]
        obtain rfl : rest = [] := List.isEmpty_iff.1 (Bool.and_eq_true_iff.1 hlast).1
        exact .last c hc hfit
      · rw [if_neg hlast]; exact .whole c rest hc hfit
    · rw [if_neg hfit]; exact .cut c rest hc (Nat.lt_of_not_le hfit)

/-- what `src.read free` returns: the bytes `bs`, the error `e` and the source `src'` that is left -/
structure ReadSpec (src : Source) (free : Nat) (bs : Bytes) (e : Option SErr) (src' : Source) : Prop where
  flatten : bs ++ src'.chunks.flatten = src.chunks.flatten
  endErr : src'.endErr = src.endErr
  errWithLast : src'.errWithLast = src.errWithLast
  len_le : bs.length ≤ free
  atEnd : ∀ x, e = some x → x = endE src ∧ src'.chunks = []
  progress : 1 ≤ free → e.isSome ∨ src'.size < src.size
  size_le : src'.size + bs.length ≤ src.size

theorem read_spec (src : Source) (free : Nat) :
    ReadSpec src free (src.read free).1 (src.read free).2.1 (src.read free).2.2 := by
  have h := read_cases src free
  generalize src.read free = q at h
  cases h with
  | empty hc =>
    exact ⟨rfl, rfl, rfl, Nat.zero_le _, fun e he => ⟨(Option.some.inj he).symm, hc⟩, fun _ => .inl rfl, Nat.le_refl _⟩
  | last c hc hfit =>
    have hsz := Source.size_cons src c [] hc
    refine ⟨by rw [hc]; rfl, rfl, rfl, hfit, fun e he => ⟨(Option.some.inj he).symm, rfl⟩, fun _ => .inl rfl, ?_⟩
    simp only; omega
  | whole c rest hc hfit =>
    have hsz := Source.size_cons src c rest hc
    refine ⟨by rw [hc]; rfl, rfl, rfl, hfit, nofun, fun _ => .inr ?_, ?_⟩
    · simp only; omega
    · simp only; omega
  | cut c rest hc hlt =>
    have hsz := Source.size_cons src c rest hc
    have hsz2 := Source.size_cons { src with chunks := c.drop free :: rest } (c.drop free) rest rfl
    simp only [List.length_drop] at hsz2
    refine ⟨?_, rfl, rfl, ?_, nofun, fun h1 => .inr ?_, ?_⟩
    · show c.take free ++ (c.drop free ++ rest.flatten) = _
      rw [hc, ← List.append_assoc, List.take_append_drop]; rfl
    · simp only [List.length_take]; omega
    · simp only; omega
    · simp only [List.length_take]; omega

theorem read_len_le (src : Source) (free : Nat) : (src.read free).1.length ≤ free := (read_spec src free).len_le

/-- `io.Reader`'s "do not return `0, nil`", for a source without empty chunks and a destination with room -/
theorem read_contract (src : Source) (free : Nat) (hf : 0 < free) (hne : ∀ c ∈ src.chunks, c ≠ []) :
    (0 < (src.read free).1.length ∨ (src.read free).2.1.isSome = true) ∧
      ∀ c ∈ (src.read free).2.2.chunks, c ≠ [] := by
  have h := read_cases src free
  generalize src.read free = q at h
  cases h with
  | empty hc => exact ⟨.inr rfl, hne⟩
  | last c hc hfit => exact ⟨.inr rfl, nofun⟩
  | whole c rest hc hfit =>
    rw [hc] at hne
    exact ⟨.inl (List.length_pos_iff.2 (hne c List.mem_cons_self)), fun x h => hne x (List.mem_cons_of_mem c h)⟩
  | cut c rest hc hlt =>
    rw [hc] at hne
    refine ⟨.inl (by rw [List.length_take]; exact Nat.lt_min.2 ⟨hf, Nat.zero_lt_of_lt hlt⟩), fun x h => ?_⟩
    rcases List.mem_cons.1 h with rfl | h
    · exact List.ne_nil_of_length_pos (by rw [List.length_drop]; exact Nat.sub_pos_of_lt hlt)
    · exact hne x (List.mem_cons_of_mem c h)

def trySplit (s : Scanner) : Option (Nat × Bytes) × Scanner :=
  if !s.data.isEmpty || s.err.isSome then
    match (splitFunc s.data s.err.isSome).2 with
    | some t => (some ((splitFunc s.data s.err.isSome).1, t),
        { s with start := s.start + (splitFunc s.data s.err.isSome).1, data := s.data.drop (splitFunc s.data s.err.isSome).1 })
    | none => (none, s)
  else (none, s)

def shift (s : Scanner) : Scanner :=
  if s.start > 0 && (s.start + s.data.length == s.bufLen || s.start > s.bufLen / 2) then { s with start := 0 } else s

def grow (s : Scanner) : Scanner :=
  { s with bufLen := min (if s.bufLen * 2 == 0 then startBufSize else s.bufLen * 2) s.maxTok.toNat, start := 0 }

def fill (s : Scanner) : Scanner :=
  let q := s.src.read (s.bufLen - (s.start + s.data.length))
  { s with data := s.data ++ q.1, err := q.2.1, src := q.2.2, pulled := s.pulled + q.1.length }

/-- the part of `Scanner.scan` after an unsuccessful split call -/
def scanRest (fuel : Nat) (s : Scanner) : Option (Nat × Bytes) × Scanner :=
  if s.err.isSome then (none, { s with start := 0, data := [] })
  else
    let s1 := shift s
    if s1.start + s1.data.length == s1.bufLen then
      if (s1.bufLen : Int) ≥ s1.maxTok then (none, { s1 with err := some .tooLong })
      else Scanner.scan fuel (fill (grow s1))
    else Scanner.scan fuel (fill s1)

def growStep (s : Scanner) : Scanner ⊕ Scanner :=
  if s.start + s.data.length == s.bufLen then
    if (s.bufLen : Int) ≥ s.maxTok then .inr { s with err := some .tooLong } else .inl (fill (grow s))
  else .inl (fill s)

/-- `scanRest` without the recursive call: `inl` go round the loop again, `inr` stop -/
def restStep (s : Scanner) : Scanner ⊕ Scanner :=
  if s.err.isSome then .inr { s with start := 0, data := [] } else growStep (shift s)

theorem scanRest_eq (fuel : Nat) (s : Scanner) :
    scanRest fuel s = match restStep s with
      | .inl s' => Scanner.scan fuel s'
      | .inr s' => (none, s') := by
  unfold scanRest restStep growStep
  dsimp only
  by_cases h1 : s.err.isSome = true
  · rw [if_pos h1, if_pos h1]
  · rw [if_neg h1, if_neg h1]
    by_cases h2 : ((shift s).start + (shift s).data.length == (shift s).bufLen) = true
    · rw [if_pos h2, if_pos h2]
      by_cases h3 : ((shift s).bufLen : Int) ≥ (shift s).maxTok
      · rw [if_pos h3, if_pos h3]
      · rw [if_neg h3, if_neg h3]
    · rw [if_neg h2, if_neg h2]

theorem trySplit_cases (s : Scanner) :
    match (trySplit s).1 with
    | some t => splitFunc s.data s.err.isSome = (t.1, some t.2) ∧
        (trySplit s).2 = { s with start := s.start + t.1, data := s.data.drop t.1 }
    | none => (trySplit s).2 = s ∧ splitFunc s.data s.err.isSome = (0, none) ∧ (s.err.isSome = true → s.data = []) := by
  unfold trySplit
  by_cases hc : (!s.data.isEmpty || s.err.isSome) = true
  · rw [if_pos hc]
    cases hq : (splitFunc s.data s.err.isSome).2 with
    | some t => exact ⟨Prod.ext rfl hq, rfl⟩
    | none =>
      obtain ⟨h0, hd⟩ := splitFunc_none _ _ hq
      exact ⟨rfl, h0, fun he => hd.resolve_right (by rw [he]; exact Bool.noConfusion)⟩
  · rw [if_neg hc]
    obtain ⟨hd, he⟩ : s.data = [] ∧ s.err.isSome = false := by simpa using hc
    exact ⟨rfl, by rw [hd]; rfl, fun _ => hd⟩

theorem scan_succ (fuel : Nat) (s : Scanner) :
    Scanner.scan (fuel + 1) s =
      match (trySplit s).1 with
      | some t => (some t, (trySplit s).2)
      | none => match restStep s with
        | .inl s' => Scanner.scan fuel s'
        | .inr s' => (none, s') := by
  have key : Scanner.scan (fuel + 1) s =
      match (trySplit s).1 with
      | some t => (some t, (trySplit s).2)
      | none => scanRest fuel (trySplit s).2 := by
    rw [Scanner.scan]; rfl
  rw [key]
  have ht := trySplit_cases s
  revert ht
  cases (trySplit s).1 with
  | some t => exact fun _ => rfl
  | none => rintro ⟨h, _⟩; simp only [h, scanRest_eq]

theorem shift_eq (s : Scanner) :
    ∃ k, k ≤ s.start ∧ (k + s.data.length = s.bufLen → k = 0) ∧ shift s = { s with start := k } := by
  unfold shift
  split
  · exact ⟨0, Nat.zero_le _, fun _ => rfl, rfl⟩
  · rename_i hc
    refine ⟨s.start, Nat.le_refl _, fun hfull => ?_, rfl⟩
    simp only [Bool.and_eq_true, decide_eq_true_eq, Bool.or_eq_true, beq_iff_eq, not_and] at hc
    by_cases h0 : s.start > 0
    · exact absurd (.inl hfull) (hc h0)
    · omega

theorem grow_bufLen (s : Scanner) (h : ¬ (s.bufLen : Int) ≥ s.maxTok) :
    s.bufLen < (grow s).bufLen ∧ (grow s).bufLen ≤ s.maxTok.toNat := by
  have hlt : s.bufLen < s.maxTok.toNat := by omega
  refine ⟨Nat.lt_min.2 ⟨?_, hlt⟩, Nat.min_le_right _ _⟩
  split
  · rename_i h0
    have := beq_iff_eq.1 h0
    rw [show s.bufLen = 0 by omega]; decide
  · rename_i h0
    have : s.bufLen * 2 ≠ 0 := fun e => h0 (beq_iff_eq.2 e)
    omega

/-- `s1` is `s` after room was made in the buffer (`shift`, and `grow` if that was not enough) -/
structure Room (s s1 : Scanner) : Prop where
  data : s1.data = s.data
  src : s1.src = s.src
  err : s1.err = s.err
  pulled : s1.pulled = s.pulled
  maxTok : s1.maxTok = s.maxTok
  start : s1.start ≤ s.start
  bufLo : s.bufLen ≤ s1.bufLen
  bufHi : s1.bufLen ≤ max s.bufLen s.maxTok.toNat
  room : s1.start + s1.data.length ≠ s1.bufLen

theorem Room.lt {s s1 : Scanner} (h : Room s s1) (hfit : s.start + s.data.length ≤ s.bufLen) :
    s1.start + s1.data.length < s1.bufLen := by
  have := h.start; have := h.bufLo; have := h.room
  rw [h.data] at *; omega

theorem restStep_cases (s : Scanner) :
    match restStep s with
    | .inl s' => s.err = none ∧ ∃ s1, Room s s1 ∧ s' = fill s1
    | .inr s' => (s.err.isSome = true ∧ s' = { s with start := 0, data := [] }) ∨
        (s.err = none ∧ s.data.length = s.bufLen ∧ (s.bufLen : Int) ≥ s.maxTok ∧
          s' = { s with start := 0, err := some .tooLong }) := by
  unfold restStep growStep
  by_cases herr : s.err.isSome = true
  · rw [if_pos herr]; exact .inl ⟨herr, rfl⟩
  · have hnone : s.err = none := Option.not_isSome_iff_eq_none.1 herr
    obtain ⟨k, hk, hk0, hs⟩ := shift_eq s
    rw [if_neg herr, hs]
    dsimp only
    by_cases hfull : k + s.data.length = s.bufLen
    · obtain rfl := hk0 hfull
      rw [if_pos (beq_iff_eq.2 hfull)]
      by_cases hlim : (s.bufLen : Int) ≥ s.maxTok
      · rw [if_pos hlim]; exact .inr ⟨hnone, by omega, hlim, rfl⟩
      · rw [if_neg hlim]
        obtain ⟨g1, g2⟩ : s.bufLen < (grow { s with start := 0 }).bufLen ∧
            (grow { s with start := 0 }).bufLen ≤ s.maxTok.toNat := grow_bufLen _ hlim
        exact ⟨hnone, grow { s with start := 0 }, ⟨rfl, rfl, rfl, rfl, rfl, Nat.zero_le _, Nat.le_of_lt g1,
          Nat.le_trans g2 (Nat.le_max_right _ _), by show 0 + s.data.length ≠ _; omega⟩, rfl⟩
    · rw [if_neg (fun h => hfull (beq_iff_eq.1 h))]
      exact ⟨hnone, { s with start := k }, ⟨rfl, rfl, rfl, rfl, rfl, hk, Nat.le_refl _, Nat.le_max_left _ _, hfull⟩, rfl⟩

theorem scan_induct {P : Nat → Scanner → Option (Nat × Bytes) × Scanner → Prop}
    (zero : ∀ s, P 0 s (none, s))
    (tok : ∀ fuel s adv tok, splitFunc s.data s.err.isSome = (adv, some tok) →
      P (fuel + 1) s (some (adv, tok), { s with start := s.start + adv, data := s.data.drop adv }))
    (done : ∀ fuel s, s.err.isSome = true → s.data = [] → P (fuel + 1) s (none, { s with start := 0, data := [] }))
    (tooLong : ∀ fuel s, s.err = none → splitFunc s.data false = (0, none) → s.data.length = s.bufLen →
      (s.bufLen : Int) ≥ s.maxTok → P (fuel + 1) s (none, { s with start := 0, err := some .tooLong }))
    (more : ∀ fuel s s1 r, s.err = none → splitFunc s.data false = (0, none) → Room s s1 →
      P fuel (fill s1) r → P (fuel + 1) s r)
    (fuel : Nat) (s : Scanner) : P fuel s (Scanner.scan fuel s) := by
  induction fuel generalizing s with
  | zero => exact zero s
  | succ fuel ih =>
    rw [scan_succ]
    have ht := trySplit_cases s
    revert ht
    cases (trySplit s).1 with
    | some t =>
      rintro ⟨h1, h2⟩
      rw [h2]
      exact tok fuel s t.1 t.2 h1
    | none =>
      rintro ⟨_, hsf, hdata⟩
      have hr := restStep_cases s
      revert hr
      cases restStep s with
      | inl s' =>
        rintro ⟨hnone, s1, hroom, rfl⟩
        rw [hnone] at hsf
        exact more fuel s s1 _ hnone hsf hroom (ih _)
      | inr s' =>
        rintro (⟨herr, rfl⟩ | ⟨hnone, hfull, hlim, rfl⟩)
        · exact done fuel s herr (hdata herr)
        · rw [hnone] at hsf
          exact tooLong fuel s hnone hsf hfull hlim

/-- the bytes not yet turned into tokens -/
def remaining (s : Scanner) : Bytes := s.data ++ s.src.chunks.flatten

structure SInv (s : Scanner) : Prop where
  fits : s.start + s.data.length ≤ s.bufLen
  errEnd : ∀ e, s.err = some e → e = endE s.src ∧ s.src.chunks = []

structure SameCfg (s s' : Scanner) : Prop where
  maxTok : s'.maxTok = s.maxTok
  endErr : s'.src.endErr = s.src.endErr
  bufLo : s.bufLen ≤ s'.bufLen
  bufHi : s'.bufLen ≤ max s.bufLen s.maxTok.toNat
  errMono : s.err.isSome = true → s'.err.isSome = true

/-- fuel measure of the scanner: what the source still holds (+1 per chunk) and the pending bytes -/
def weight (s : Scanner) : Nat := s.src.size + s.data.length

theorem SameCfg.refl (s : Scanner) : SameCfg s s := ⟨rfl, rfl, Nat.le_refl _, Nat.le_max_left _ _, id⟩

theorem SameCfg.of_eq {s s' : Scanner} (h1 : s'.maxTok = s.maxTok) (h2 : s'.src = s.src) (h3 : s'.bufLen = s.bufLen)
    (h4 : s'.err = s.err) : SameCfg s s' :=
  ⟨h1, by rw [h2], by rw [h3]; exact Nat.le_refl _, by rw [h3]; exact Nat.le_max_left _ _, by rw [h4]; exact id⟩

theorem SameCfg.trans {a b c : Scanner} (h1 : SameCfg a b) (h2 : SameCfg b c) : SameCfg a c := by
  refine ⟨h2.maxTok.trans h1.maxTok, h2.endErr.trans h1.endErr, Nat.le_trans h1.bufLo h2.bufLo, ?_,
    fun h => h2.errMono (h1.errMono h)⟩
  have := h2.bufHi; have := h1.bufHi; have := h1.maxTok; have := h1.bufLo
  rw [h1.maxTok] at *
  omega

theorem SameCfg.endE {s s' : Scanner} (h : SameCfg s s') : endE s'.src = endE s.src := by
  simp only [Proofs.endE, h.endErr]

inductive ScanRes (s : Scanner) : Option (Nat × Bytes) × Scanner → Prop
  /-- a token: `D` is the buffer content the successful split call saw -/
  | tok (D : Bytes) (adv : Nat) (tok : Bytes) (s' : Scanner)
      (hrem : remaining s = D ++ s'.src.chunks.flatten)
      (hsplit : splitFunc D s'.err.isSome = (adv, some tok))
      (hdata : s'.data = D.drop adv) (hinv : SInv s') (hcfg : SameCfg s s')
      (hwt : weight s' + adv ≤ weight s) :
      ScanRes s (some (adv, tok), s')
  /-- `ErrTooLong`: the buffer `D` is full, at the limit, and holds no complete token -/
  | tooLong (D : Bytes) (s' : Scanner) (herr : s'.err = some .tooLong) (hnone : s.err = none)
      (hrem : remaining s = D ++ s'.src.chunks.flatten)
      (hsplit : splitFunc D false = (0, none)) (hdata : s'.data = D)
      (hfull : D.length = s'.bufLen) (hlim : (s'.bufLen : Int) ≥ s'.maxTok) (hcfg : SameCfg s s') :
      ScanRes s (none, s')
  | done (s' : Scanner) (herr : s'.err = some (endE s.src)) (hrem : remaining s = [])
      (hdata : s'.data = []) (hsrc : s'.src.chunks = []) (hinv : SInv s') (hcfg : SameCfg s s') :
      ScanRes s (none, s')

theorem ScanRes.transport {s s2 : Scanner} {r} (h : ScanRes s2 r) (hrem : remaining s2 = remaining s)
    (hcfg : SameCfg s s2) (hw : weight s2 ≤ weight s) (hn : s.err = none) : ScanRes s r := by
  cases h with
  | tok D adv tok s' h1 h2 h3 h4 h5 h6 => exact .tok D adv tok s' (hrem ▸ h1) h2 h3 h4 (hcfg.trans h5) (by omega)
  | tooLong D s' h1 _ h2 h3 h4 h5 h6 h7 => exact .tooLong D s' h1 hn (hrem ▸ h2) h3 h4 h5 h6 (hcfg.trans h7)
  | done s' h1 h2 h3 h4 hi h5 =>
    exact .done s' (h1.trans (congrArg some hcfg.endE)) (hrem ▸ h2) h3 h4 hi (hcfg.trans h5)

theorem fill_spec (s : Scanner) (hfit : s.start + s.data.length ≤ s.bufLen) (_hnone : s.err = none) :
    remaining (fill s) = remaining s ∧ SInv (fill s) ∧ SameCfg s (fill s) ∧
    (s.start + s.data.length < s.bufLen → (fill s).err.isSome ∨ (fill s).src.size < s.src.size) ∧
    weight (fill s) ≤ weight s := by
  have hr := read_spec s.src (s.bufLen - (s.start + s.data.length))
  have := hr.len_le; have := hr.size_le
  refine ⟨?_, ⟨?_, ?_⟩, ⟨rfl, hr.endErr, Nat.le_refl _, Nat.le_max_left _ _, fun h => by rw [_hnone] at h; simp at h⟩, ?_, ?_⟩
  · simp only [remaining, fill, List.append_assoc, hr.flatten]
  · simp only [fill, List.length_append]; omega
  · intro e he
    have := hr.atEnd e he
    simpa only [fill, endE, hr.endErr] using this
  · intro hlt
    exact hr.progress (by omega)
  · simp only [weight, fill, List.length_append]; omega

/-- Every round's read shrinks the source (`size` counts one per chunk besides the bytes) or reports the end.
`+ 2`: the round whose read reports the end, and the one after it, for which 1 is enough. -/
theorem Room.fuel {s s1 : Scanner} (h : Room s s1) (hfit : s.start + s.data.length ≤ s.bufLen) (hnone : s.err = none)
    {k : Nat} (hk : (if s.err.isSome then 1 else s.src.size + 2) ≤ k + 1) :
    (if (fill s1).err.isSome then 1 else (fill s1).src.size + 2) ≤ k := by
  obtain ⟨_, _, _, hprog, _⟩ := fill_spec s1 (Nat.le_of_lt (h.lt hfit)) (h.err.trans hnone)
  rw [hnone, Option.isSome_none, if_neg Bool.false_ne_true] at hk
  rcases hprog (h.lt hfit) with hp | hp
  · rw [if_pos hp]; omega
  · rw [h.src] at hp; split <;> omega

theorem scan_spec (fuel : Nat) (s : Scanner) (hinv : SInv s)
    (hf : (if s.err.isSome then 1 else s.src.size + 2) ≤ fuel) : ScanRes s (Scanner.scan fuel s) := by
  revert hinv hf
  refine scan_induct
    (P := fun fuel s r => SInv s → (if s.err.isSome then 1 else s.src.size + 2) ≤ fuel → ScanRes s r)
    ?_ ?_ ?_ ?_ ?_ fuel s
  · intro s _ hf
    split at hf <;> omega
  · intro fuel s adv tok hsplit hinv _
    have hle := sf_adv_le s.data s.err.isSome
    have := hinv.fits
    rw [hsplit] at hle
    exact .tok s.data adv tok _ rfl hsplit rfl ⟨by simp only [List.length_drop]; omega, hinv.errEnd⟩
      (.of_eq rfl rfl rfl rfl) (by simp only [weight, List.length_drop]; omega)
  · intro fuel s herr hdata hinv _
    obtain ⟨e, he⟩ := Option.isSome_iff_exists.1 herr
    obtain ⟨he1, he2⟩ := hinv.errEnd e he
    exact .done _ (by simp [he, he1]) (by simp [remaining, hdata, he2]) rfl he2 ⟨by simp, hinv.errEnd⟩
      (.of_eq rfl rfl rfl rfl)
  · intro fuel s hnone hsf hfull hlim _ _
    exact .tooLong s.data _ rfl hnone rfl hsf rfl hfull hlim
      ⟨rfl, rfl, Nat.le_refl _, Nat.le_max_left _ _, fun _ => rfl⟩
  · intro fuel s s1 r hnone hsf hroom ih hinv hf
    obtain ⟨f1, f2, f3, _, f5⟩ := fill_spec s1 (Nat.le_of_lt (hroom.lt hinv.fits)) (hroom.err.trans hnone)
    have hcfg1 : SameCfg s s1 :=
      ⟨hroom.maxTok, by rw [hroom.src], hroom.bufLo, hroom.bufHi, by rw [hroom.err]; exact id⟩
    have hw1 : weight s1 = weight s := by simp only [weight, hroom.src, hroom.data]
    exact (ih f2 (hroom.fuel hinv.fits hnone hf)).transport (f1.trans (by simp only [remaining, hroom.data, hroom.src]))
      (hcfg1.trans f3) (by omega) hnone

/-- the fuel `Parser.next` gives, `size + len(data) + 4`, is above the `size + 2` that `scan_spec` asks for -/
theorem scan_spec_parser (s : Scanner) (hinv : SInv s) : ScanRes s (Scanner.scan (s.src.size + s.data.length + 4) s) :=
  scan_spec _ s hinv (by split <;> omega)

/-- the scanner's limit on pending bytes: 65536 by default, `max(max, cap buf)` when configured -/
def limitOf (cfg : Option (Nat × Int)) : Nat :=
  match cfg with
  | none => 65536
  | some (capBuf, max) => Nat.max capBuf max.toNat

theorem mkScanner_eq (src : Source) (cfg : Option (Nat × Int)) :
    ∃ b M, mkScanner src cfg = { src := src, bufLen := b, maxTok := M } ∧ limitOf cfg = max b M.toNat := by
  cases cfg with
  | none => exact ⟨0, 65536, rfl, rfl⟩
  | some c => exact ⟨c.1, c.2, rfl, rfl⟩

theorem mkScanner_facts (src : Source) (cfg : Option (Nat × Int)) :
    SInv (mkScanner src cfg) ∧ remaining (mkScanner src cfg) = src.chunks.flatten ∧
    (mkScanner src cfg).src = src ∧ (mkScanner src cfg).data = [] := by
  obtain ⟨b, M, h, _⟩ := mkScanner_eq src cfg
  rw [h]
  exact ⟨⟨Nat.zero_le _, nofun⟩, rfl, rfl, rfl⟩

end GoSSE.Proofs
