import GoSSE.Proofs.ParserSplit
/-!
The specification as a byte-at-a-time machine (`step`/`feed`), so that it can be run over the
pieces in which the implementation consumes the stream.
-/
namespace GoSSE.Proofs
open GoSSE GoSSE.Spec GoSSE.Model

/-- state of the specification between two bytes: interpreter state, the (reversed) bytes of
the current line, and whether an LF is to be swallowed -/
structure M where
  ist : IState
  acc : Bytes := []
  sk : Bool := false

def step (conn : Bool) (m : M) (b : Byte) : M × List Out :=
  if m.sk && b == 10 then ({ m with sk := false }, [])
  else if b == 10 then
    let r := procLine .gosse conn m.ist m.acc.reverse
    (⟨r.1, [], false⟩, r.2)
  else if b == 13 then
    let r := procLine .gosse conn m.ist m.acc.reverse
    (⟨r.1, [], true⟩, r.2)
  else (⟨m.ist, b :: m.acc, false⟩, [])

def feed (conn : Bool) : M → Bytes → M × List Out
  | m, [] => (m, [])
  | m, b :: t =>
    let r := step conn m b
    let q := feed conn r.1 t
    (q.1, r.2 ++ q.2)

@[simp] theorem feed_nil (conn : Bool) (m : M) : feed conn m [] = (m, []) := rfl

theorem feed_cons (conn : Bool) (m : M) (b : Byte) (t : Bytes) :
    feed conn m (b :: t) = ((feed conn (step conn m b).1 t).1, (step conn m b).2 ++ (feed conn (step conn m b).1 t).2) := rfl

theorem feed_append (conn : Bool) (m : M) (A B : Bytes) :
    feed conn m (A ++ B) =
      ((feed conn (feed conn m A).1 B).1, (feed conn m A).2 ++ (feed conn (feed conn m A).1 B).2) := by
  induction A generalizing m with
  | nil => simp
  | cons b t ih => simp only [List.cons_append, feed_cons, ih, List.append_assoc]

theorem feed_spec (conn : Bool) (m : M) (X : Bytes) :
    (feed conn m X).2 = (interp .gosse conn m.ist (splitLines X m.acc m.sk).1).2 ∧
    (feed conn m X).1.ist = (interp .gosse conn m.ist (splitLines X m.acc m.sk).1).1 ∧
    (feed conn m X).1.acc = (splitLines X m.acc m.sk).2.reverse := by
  induction X generalizing m with
  | nil => simp [splitLines, interp]
  | cons b t ih =>
    rw [feed_cons]
    unfold step splitLines
    by_cases h1 : (m.sk && b == 10) = true
    · simp only [h1, if_true]
      exact ih _
    · simp only [h1, if_false, Bool.false_eq_true]
      by_cases h2 : (b == 10) = true
      · simp only [h2, if_true]
        have := ih ⟨(procLine .gosse conn m.ist m.acc.reverse).1, [], false⟩
        simp only [interp, this, and_self]
      · simp only [h2, if_false, Bool.false_eq_true]
        by_cases h3 : (b == 13) = true
        · simp only [h3, if_true]
          have := ih ⟨(procLine .gosse conn m.ist m.acc.reverse).1, [], true⟩
          simp only [interp, this, and_self]
        · simp only [h3, if_false, Bool.false_eq_true]
          have := ih ⟨m.ist, b :: m.acc, false⟩
          simpa using this

theorem interp_of_feed {conn : Bool} {m : M} {X : Bytes} {ist : IState} {acc : Bytes} {sk : Bool} {outs : List Out}
    (h : feed conn m X = (⟨ist, acc, sk⟩, outs)) :
    interp .gosse conn m.ist (splitLines X m.acc m.sk).1 = (ist, outs) ∧ (splitLines X m.acc m.sk).2 = acc.reverse := by
  obtain ⟨f1, f2, f3⟩ := feed_spec conn m X
  rw [h] at f1 f2 f3
  exact ⟨Prod.ext f2.symm f1.symm, List.reverse_eq_iff.1 f3.symm⟩

/-- the end rule of `Spec.run`, on the machine's final state -/
def endRule (r : M × List Out) (ek : EndKind) : List Out × EndCond :=
  match ek with
  | .err => (r.2, .readErr)
  | .eof =>
    if r.1.acc ≠ [] then (r.2, .unexpectedEOF)
    else if r.1.ist.dirty then (r.2 ++ [.event (mkEvent r.1.ist)], .clean)
    else (r.2, .clean)

theorem run_eq_feed (conn : Bool) (lastID : Bytes) (S : Bytes) (ek : EndKind) :
    Spec.run .gosse conn lastID S ek = endRule (feed conn ⟨{ lastID := lastID }, [], false⟩ (stripBOM S)) ek := by
  obtain ⟨h1, h2, h3⟩ := feed_spec conn ⟨{ lastID := lastID }, [], false⟩ (stripBOM S)
  unfold Spec.run endRule
  cases ek with
  | err => simp only [h1]
  | eof =>
    simp only [h1, h2, h3, dispatchable]
    by_cases hr : (splitLines (stripBOM S) [] false).2 = []
    · by_cases hd : (interp .gosse conn { lastID := lastID } (splitLines (stripBOM S) [] false).1).1.dirty = true
      · simp [hr, hd]
      · simp [hr, hd]
    · simp [hr]

theorem step_lf_skip (conn : Bool) (ist : IState) (acc : Bytes) :
    step conn ⟨ist, acc, true⟩ 10 = (⟨ist, acc, false⟩, []) := rfl

theorem step_lf (conn : Bool) (ist : IState) (acc : Bytes) :
    step conn ⟨ist, acc, false⟩ 10 =
      (⟨(procLine .gosse conn ist acc.reverse).1, [], false⟩, (procLine .gosse conn ist acc.reverse).2) := rfl

theorem step_cr (conn : Bool) (ist : IState) (acc : Bytes) (sk : Bool) :
    step conn ⟨ist, acc, sk⟩ 13 =
      (⟨(procLine .gosse conn ist acc.reverse).1, [], true⟩, (procLine .gosse conn ist acc.reverse).2) := by
  cases sk <;> rfl

theorem step_other (conn : Bool) (ist : IState) (acc : Bytes) (sk : Bool) (b : Byte) (hb : isNl b = false) :
    step conn ⟨ist, acc, sk⟩ b = (⟨ist, b :: acc, false⟩, []) := by
  obtain ⟨h10, h13⟩ := (isNl_false_iff b).1 hb
  simp [step, h10, h13]

/-- machine states that can arise: an LF is only swallowed right after a CR, when no byte of
the next line has been seen -/
def M.WF (m : M) : Prop := m.sk = true → m.acc = []

theorem step_wf (conn : Bool) (m : M) (b : Byte) : (step conn m b).1.WF := by
  unfold step
  split
  · simp [M.WF]
  · split
    · simp [M.WF]
    · split <;> simp [M.WF]

theorem feed_wf (conn : Bool) (m : M) (X : Bytes) (h : m.WF) : (feed conn m X).1.WF := by
  induction X generalizing m with
  | nil => exact h
  | cons b t ih => rw [feed_cons]; exact ih _ (step_wf conn m b)

theorem feed_noNl (conn : Bool) (ist : IState) (acc : Bytes) (sk : Bool) (l : Bytes) (h : NlFree l) :
    feed conn ⟨ist, acc, sk⟩ l = (⟨ist, l.reverse ++ acc, sk && l.isEmpty⟩, []) := by
  induction l generalizing acc sk with
  | nil => simp
  | cons b t ih => rw [feed_cons, step_other conn ist acc sk b (h b (by simp)), ih _ _ h.tail]; simp

theorem feed_term (conn : Bool) (ist : IState) (acc : Bytes) (sk : Bool) (term t : Bytes) (ht : IsTerm term t)
    (hsk : sk = true → term.head? ≠ some 10) :
    feed conn ⟨ist, acc, sk⟩ term =
      (⟨(procLine .gosse conn ist acc.reverse).1, [], decide (term = [13])⟩,
        (procLine .gosse conn ist acc.reverse).2) := by
  rcases ht with h | h | ⟨h, _⟩ <;> subst h
  · obtain rfl : sk = false := by
      cases sk
      · rfl
      · exact absurd rfl (hsk rfl)
    simp only [feed_cons, feed_nil, step_lf, List.append_nil]; rfl
  · simp only [feed_cons, feed_nil, step_cr, step_lf_skip, List.append_nil]; rfl
  · simp only [feed_cons, feed_nil, step_cr, List.append_nil]; rfl

/-- the interpreter state at an event boundary -/
def Boundary (ist : IState) : Prop := ist.typ = [] ∧ ist.data = [] ∧ ist.dirty = false

theorem procLine_nil_boundary (conn : Bool) (ist : IState) : Boundary (procLine .gosse conn ist []).1 := by
  simp only [procLine, List.isEmpty_nil, if_true]
  split <;> simp [Boundary]

theorem procLine_nil_of_boundary (conn : Bool) (ist : IState) (h : Boundary ist) :
    procLine .gosse conn ist [] = (ist, []) := by
  obtain ⟨h1, h2, h3⟩ := h
  cases ist
  simp_all [procLine, dispatchable]

theorem feed_line (conn : Bool) (ist : IState) (sk : Bool) (l term t : Bytes) (hl : NlFree l) (ht : IsTerm term t)
    (hsk : sk = true → (l ++ term).head? ≠ some 10) :
    feed conn ⟨ist, [], sk⟩ (l ++ term) =
      (⟨(procLine .gosse conn ist l).1, [], decide (term = [13])⟩, (procLine .gosse conn ist l).2) := by
  have hsk' : (sk && l.isEmpty) = true → term.head? ≠ some 10 := fun h => by
    obtain ⟨h1, h2⟩ := Bool.and_eq_true_iff.1 h
    have := hsk h1
    rwa [List.isEmpty_iff.1 h2] at this
  rw [feed_append, feed_noNl conn ist [] sk l hl, feed_term conn ist _ _ term t ht hsk']
  simp

theorem step_blank (conn : Bool) (ist : IState) (sk : Bool) (b : Byte) (hb : Boundary ist) (hnl : isNl b = true) :
    ∃ sk', step conn ⟨ist, [], sk⟩ b = (⟨ist, [], sk'⟩, []) := by
  have hp := procLine_nil_of_boundary conn ist hb
  rcases (isNl_true_iff b).1 hnl with rfl | rfl
  · cases sk
    · exact ⟨false, by rw [step_lf, List.reverse_nil, hp]⟩
    · exact ⟨false, step_lf_skip conn ist []⟩
  · exact ⟨true, by rw [step_cr, List.reverse_nil, hp]⟩

theorem feed_blanks (conn : Bool) (ist : IState) (sk : Bool) (B : Bytes) (hb : Boundary ist) (hB : AllNl B) :
    ∃ sk', feed conn ⟨ist, [], sk⟩ B = (⟨ist, [], sk'⟩, []) := by
  induction B generalizing sk with
  | nil => exact ⟨sk, rfl⟩
  | cons b t ih =>
    obtain ⟨sk1, h1⟩ := step_blank conn ist sk b hb (hB b (by simp))
    obtain ⟨sk', h⟩ := ih sk1 hB.tail
    exact ⟨sk', by rw [feed_cons, h1, h]; rfl⟩

theorem feed_lastIsNl (conn : Bool) (m : M) (T : Bytes) (hm : m.WF) (hT : LastIsNl T) :
    (feed conn m T).1.acc = [] ∧ ((feed conn m T).1.sk = true → T.getLast? = some 13) := by
  obtain ⟨b, hb1, hb2⟩ := hT
  obtain ⟨T0, rfl⟩ := List.getLast?_eq_some_iff.1 hb1
  rw [feed_append]
  have hwf := feed_wf conn m T0 hm
  generalize (feed conn m T0).1 = m1 at hwf
  obtain ⟨ist1, acc1, sk1⟩ := m1
  simp only [feed_cons, feed_nil]
  rcases (isNl_true_iff b).1 hb2 with rfl | rfl
  · cases sk1
    · rw [step_lf]; exact ⟨rfl, nofun⟩
    · rw [step_lf_skip]; exact ⟨hwf rfl, nofun⟩
  · rw [step_cr]; exact ⟨rfl, fun _ => hb1⟩

theorem feed_token_boundary (conn : Bool) (m : M) (T nl rest : Bytes) (hm : m.WF) (hT : LastIsNl T)
    (hcr : T.getLast? = some 13 → nl.head? ≠ some 10) (hnl : IsTerm nl rest) :
    (feed conn m (T ++ nl)).1.acc = [] ∧ Boundary (feed conn m (T ++ nl)).1.ist := by
  rw [feed_append]
  obtain ⟨h1, h2⟩ := feed_lastIsNl conn m T hm hT
  generalize (feed conn m T).1 = m1 at h1 h2
  obtain ⟨ist1, acc1, sk1⟩ := m1
  subst h1
  rw [feed_term conn ist1 [] sk1 nl rest hnl fun h => hcr (h2 h)]
  exact ⟨rfl, procLine_nil_boundary conn ist1⟩

theorem endRule_prefix (F : M × List Out) (ek : EndKind) : F.2 <+: (endRule F ek).1 := by
  unfold endRule
  cases ek with
  | err => exact List.prefix_refl _
  | eof =>
    dsimp only
    split
    · exact List.prefix_refl _
    · split
      · exact List.prefix_append _ _
      · exact List.prefix_refl _

end GoSSE.Proofs
