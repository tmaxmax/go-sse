import GoSSE.Gen.Root
import GoSSE.Model.Parser
import GoSSE.Model.Fields
import GoSSE.Model.Queue
import GoSSE.Proofs.ParserRange
/-!
# The generated layer computes the hand-written model

`GoSSE/Gen/*.lean` is produced by `/verif/translate` from /repo's current source on every run. Each theorem
here says that a generated definition, given enough fuel, returns exactly what the hand-written model's
function returns — in particular that it never panics (no index or slice expression out of range) and never
runs out of fuel. The property theorems about the model therefore hold of the translated source text.

The file opens with what every such proof is made of: the checked operations of `GoRT` at arguments in range, the
casts between `Int` and `Nat`, `loopM` and its loop principles. The parser of parser.go and its `FieldParser` follow.
-/
namespace GoSSE.GenEquiv
open GoSSE GoSSE.GoRT GoSSE.Model

-- evaluated steps of `GoM`

theorem ok_bind {α β : Type} (a : α) (f : α → GoM β) : (Except.ok a >>= f) = f a := rfl

theorem pure_ok {α : Type} (a : α) : (pure a : GoM α) = .ok a := rfl

-- the checked operations at arguments in range

theorem len_eq {α} (s : List α) : len s = (s.length : Int) := rfl

theorem idx_ok {α} [Inhabited α] (s : List α) (i : Nat) (h : i < s.length) :
    idx s (i : Int) = .ok (s[i]'h) := by
  have hb : (0 : Int) ≤ i ∧ (i : Int) < len s := ⟨Int.natCast_nonneg i, Int.ofNat_lt.mpr h⟩
  rw [idx, if_pos hb, Int.toNat_natCast, List.getD_eq_getElem?_getD, List.getElem?_eq_getElem h]; rfl

theorem idx_getD {α} [Inhabited α] (s : List α) (i : Nat) (h : i < s.length) :
    idx s (i : Int) = .ok (s.getD i default) := by
  have hb : (0 : Int) ≤ i ∧ (i : Int) < len s := ⟨Int.natCast_nonneg i, Int.ofNat_lt.mpr h⟩
  rw [idx, if_pos hb, Int.toNat_natCast]; rfl

theorem setIdx_ok {α} (s : List α) (i : Nat) (v : α) (h : i < s.length) :
    setIdx s (i : Int) v = .ok (s.set i v) := by
  rw [setIdx, if_pos ⟨Int.natCast_nonneg i, Int.ofNat_lt.mpr h⟩, Int.toNat_natCast]; rfl

theorem slice_ok {α} (s : List α) (i j : Nat) (h : i ≤ j) (h2 : j ≤ s.length) :
    slice s (i : Int) (j : Int) = .ok ((s.take j).drop i) := by
  have hb : (0 : Int) ≤ i ∧ (i : Int) ≤ j ∧ (j : Int) ≤ len s :=
    ⟨Int.natCast_nonneg i, Int.ofNat_le.mpr h, Int.ofNat_le.mpr h2⟩
  rw [slice, if_pos hb, Int.toNat_natCast, Int.toNat_natCast]; rfl

theorem sliceTo_ok {α} (s : List α) (j : Nat) (h : j ≤ s.length) : sliceTo s (j : Int) = .ok (s.take j) := by
  have hb : (0 : Int) ≤ j ∧ (j : Int) ≤ len s := ⟨Int.natCast_nonneg j, Int.ofNat_le.mpr h⟩
  rw [sliceTo, if_pos hb, Int.toNat_natCast]; rfl

theorem sliceTo_len {α} (s : List α) : sliceTo s (len s) = .ok s :=
  (sliceTo_ok s s.length (Nat.le_refl _)).trans (by rw [List.take_length])

theorem sliceFrom_ok {α} (s : List α) (i : Nat) (h : i ≤ s.length) : sliceFrom s (i : Int) = .ok (s.drop i) := by
  have hb : (0 : Int) ≤ i ∧ (i : Int) ≤ len s := ⟨Int.natCast_nonneg i, Int.ofNat_le.mpr h⟩
  rw [sliceFrom, if_pos hb, Int.toNat_natCast]; rfl

theorem copyInto_natCast {α} (dst src : List α) (off : Nat) (h : off ≤ dst.length) :
    copyInto dst (off : Int) src =
      .ok (dst.take off ++ src.take (min (dst.length - off) src.length) ++
        dst.drop (off + min (dst.length - off) src.length), ((min (dst.length - off) src.length : Nat) : Int)) := by
  have hb : (0 : Int) ≤ off ∧ (off : Int) ≤ len dst := ⟨Int.natCast_nonneg off, Int.ofNat_le.mpr h⟩
  rw [copyInto, if_pos hb, Int.toNat_natCast]; rfl

theorem copyInto_ok {α} (dst src : List α) (off : Nat) (h : off + src.length ≤ dst.length) :
    copyInto dst (off : Int) src = .ok (dst.take off ++ src ++ dst.drop (off + src.length), (src.length : Int)) := by
  have hmin : min (dst.length - off) src.length = src.length := by omega
  rw [copyInto_natCast dst src off (by omega), hmin, List.take_length]

theorem copyInto_zero {α} (dst src : List α) (h : src.length ≤ dst.length) :
    copyInto dst (0 : Int) src = .ok (src ++ dst.drop src.length, (src.length : Int)) := by
  have := copyInto_ok dst src 0 (by omega)
  rwa [Nat.zero_add, List.take_zero, List.nil_append] at this

theorem makeSlice_natCast {α} (zero : α) (n : Nat) : makeSlice zero (n : Int) = .ok (List.replicate n zero) := by
  rw [makeSlice, if_pos (Int.natCast_nonneg n), Int.toNat_natCast]; rfl

theorem guardedIdx_eq (s : Bytes) (j : Int) (i : Nat) (c : Bool) (v : UInt8) (hj : j = (i : Int))
    (h : c = true → i < s.length) :
    (if c then do let b ← idx s j; pure (b == v) else pure false : GoM Bool) = .ok (c && s.getD i 0 == v) := by
  subst hj
  cases c
  · rfl
  · rw [if_pos rfl, idx_getD s i (h rfl), ok_bind, pure_ok, Bool.true_and]; rfl

-- the checked operations out of range: Go's run-time panics

theorem idx_panic {α} [Inhabited α] (s : List α) (i : Nat) (h : ¬ i < s.length) :
    idx s (i : Int) = .error (.panic "index out of range") := by
  unfold idx len
  have : ¬ ((0 : Int) ≤ i ∧ (i : Int) < s.length) := by omega
  rw [if_neg this]; rfl

theorem setIdx_panic {α} (s : List α) (i : Nat) (v : α) (h : ¬ i < s.length) :
    setIdx s (i : Int) v = .error (.panic "index out of range") := by
  unfold setIdx len
  have : ¬ ((0 : Int) ≤ i ∧ (i : Int) < s.length) := by omega
  rw [if_neg this]; rfl

theorem slice_panic {α} (s : List α) (i j : Nat) (h : ¬ (i ≤ j ∧ j ≤ s.length)) :
    slice s (i : Int) (j : Int) = .error (.panic "slice bounds out of range") := by
  unfold slice len
  have : ¬ ((0 : Int) ≤ i ∧ (i : Int) ≤ j ∧ (j : Int) ≤ s.length) := by omega
  rw [if_neg this]; rfl

theorem sliceFrom_panic {α} (s : List α) (i : Nat) (h : ¬ i ≤ s.length) :
    sliceFrom s (i : Int) = .error (.panic "slice bounds out of range") := by
  unfold sliceFrom len
  have : ¬ ((0 : Int) ≤ i ∧ (i : Int) ≤ s.length) := by omega
  rw [if_neg this]; rfl

theorem sliceTo_panic {α} (s : List α) (j : Nat) (h : ¬ j ≤ s.length) :
    sliceTo s (j : Int) = .error (.panic "slice bounds out of range") := by
  unfold sliceTo len
  have : ¬ ((0 : Int) ≤ j ∧ (j : Int) ≤ s.length) := by omega
  rw [if_neg this]; rfl

-- casts: the translated code computes with `Int`, the model with `Nat`

theorem natCast_beq (a b : Nat) : ((a : Int) == (b : Int)) = (a == b) := by
  rw [Bool.eq_iff_iff, beq_iff_eq, beq_iff_eq, Int.natCast_inj]

theorem natCast_beq_zero (a : Nat) : ((a : Int) == 0) = (a == 0) := natCast_beq a 0

theorem natCast_lt_decide (a b : Nat) : decide ((a : Int) < (b : Int)) = decide (a < b) :=
  decide_eq_decide.mpr Int.ofNat_lt

theorem natCast_min (a b : Nat) : ((min a b : Nat) : Int) = min (a : Int) (b : Int) := by
  by_cases h : a ≤ b
  · rw [Nat.min_eq_left h, Int.min_eq_left (Int.ofNat_le.mpr h)]
  · have h' : b ≤ a := Nat.le_of_not_le h
    rw [Nat.min_eq_right h', Int.min_eq_right (Int.ofNat_le.mpr h')]

theorem cast_succ (a : Nat) : (a : Int) + 1 = ((a + 1 : Nat) : Int) := rfl

theorem cast_pred (a : Nat) (h : 0 < a) : (a : Int) - 1 = ((a - 1 : Nat) : Int) := by omega

theorem tdiv_nat (L k : Nat) : Int.tdiv (L : Int) (k : Int) = ((L / k : Nat) : Int) := by
  rw [Int.natCast_tdiv_eq_ediv]; rfl

theorem len_eq_zero_iff {α} (l : List α) : (len l == (0 : Int)) = l.isEmpty := by
  cases l with
  | nil => rfl
  | cons a t => exact (natCast_beq_zero (t.length + 1)).trans rfl

-- one iteration of `loopM`

theorem loopM_succ {σ ρ : Type} (body : σ → GoM (Step σ ρ)) (n : Nat) (s : σ) :
    loopM body (n + 1) s = body s >>= fun st =>
      match st with
      | .next s' => loopM body n s'
      | .brk s' => pure (.inl s')
      | .ret r => pure (.inr r) := by
  conv => lhs; unfold loopM
  cases body s with
  | error e => rfl
  | ok st => cases st <;> rfl

theorem loopM_next {σ ρ : Type} {body : σ → GoM (Step σ ρ)} {s s' : σ} (h : body s = .ok (.next s')) (n : Nat) :
    loopM body (n + 1) s = loopM body n s' := by
  rw [loopM_succ, h]; rfl

theorem loopM_brk {σ ρ : Type} {body : σ → GoM (Step σ ρ)} {s s' : σ} (h : body s = .ok (.brk s')) (n : Nat) :
    loopM body (n + 1) s = .ok (.inl s') := by
  rw [loopM_succ, h]; rfl

theorem loopM_ret {σ ρ : Type} {body : σ → GoM (Step σ ρ)} {s : σ} {r : ρ} (h : body s = .ok (.ret r)) (n : Nat) :
    loopM body (n + 1) s = .ok (.inr r) := by
  rw [loopM_succ, h]; rfl

theorem loopM_error {σ ρ : Type} {body : σ → GoM (Step σ ρ)} {s : σ} {e : Fault} (h : body s = .error e) (n : Nat) :
    loopM body (n + 1) s = .error e := by
  rw [loopM_succ, h]; rfl

theorem loopM_ret_or_next {σ ρ β : Type} {body : σ → GoM (Step σ ρ)} {s s' : σ} {v : ρ} {c : Prop} [Decidable c]
    (h : body s = if c then .ok (.ret v) else .ok (.next s')) (n : Nat) (cont : σ ⊕ ρ → GoM β) :
    (loopM body (n + 1) s >>= cont) = if c then cont (.inr v) else (loopM body n s' >>= cont) := by
  by_cases hc : c
  · rw [if_pos hc] at h ⊢; rw [loopM_ret h]; rfl
  · rw [if_neg hc] at h ⊢; rw [loopM_next h]

theorem index_fuel {len i n : Nat} (hlt : i < len) (hn : len - i < n + 1) : len - (i + 1) < n := by
  omega

-- loop principles

theorem loopM_find {α ρ : Type} (l : List α) (p : α → Bool) (r : ρ) (body : Int → GoM (Step Int ρ))
    (hin : ∀ (i : Nat) (h : i < l.length),
      body (i : Int) = .ok (if p l[i] then .ret r else .next ((i + 1 : Nat) : Int)))
    (hout : body (l.length : Int) = .ok (.brk (l.length : Int))) :
    ∀ (n i : Nat), i ≤ l.length → l.length - i < n →
      loopM body n (i : Int) = .ok (if (l.drop i).any p then .inr r else .inl (l.length : Int)) := by
  intro n
  induction n with
  | zero => intro i _ h; exact absurd h (Nat.not_lt_zero _)
  | succ n ih =>
    intro i hi hn
    by_cases hlt : i < l.length
    · have hb := hin i hlt
      rw [List.drop_eq_getElem_cons hlt, List.any_cons]
      cases hp : p l[i]
      · rw [hp] at hb
        rw [loopM_next hb, ih (i + 1) hlt (index_fuel hlt hn)]; rfl
      · rw [hp] at hb
        rw [loopM_ret hb]; rfl
    · obtain rfl : i = l.length := Nat.le_antisymm hi (Nat.le_of_not_lt hlt)
      rw [loopM_brk hout, List.drop_length]; rfl

/-- the loop state `g t` stands for a model state `t`; `P` is an invariant that `f` keeps -/
theorem loopM_fold {α τ σ ρ : Type} (l : List α) (f : τ → α → τ) (g : τ → σ) (P : τ → Prop)
    (body : Int × σ → GoM (Step (Int × σ) ρ))
    (hin : ∀ (i : Nat) (h : i < l.length) (t : τ), P t →
      body ((i : Int), g t) = .ok (.next (((i + 1 : Nat) : Int), g (f t l[i]))) ∧ P (f t l[i]))
    (hout : ∀ t, body ((l.length : Int), g t) = .ok (.brk ((l.length : Int), g t))) :
    ∀ (n i : Nat) (t : τ), i ≤ l.length → l.length - i < n → P t →
      loopM body n ((i : Int), g t) = .ok (.inl ((l.length : Int), g ((l.drop i).foldl f t))) := by
  intro n
  induction n with
  | zero => intro i t _ h; exact absurd h (Nat.not_lt_zero _)
  | succ n ih =>
    intro i t hi hn hP
    by_cases hlt : i < l.length
    · obtain ⟨hb, hP'⟩ := hin i hlt t hP
      rw [loopM_next hb, List.drop_eq_getElem_cons hlt, List.foldl_cons]
      exact ih (i + 1) _ hlt (index_fuel hlt hn) hP'
    · obtain rfl : i = l.length := Nat.le_antisymm hi (Nat.le_of_not_lt hlt)
      rw [loopM_brk (hout t), List.drop_length]; rfl

theorem idx_mid {α} [Inhabited α] (pre suf : List α) (k : α) :
    idx (pre ++ k :: suf) (pre.length : Int) = .ok k := by
  rw [idx_ok _ _ (by rw [List.length_append, List.length_cons]; omega), List.getElem_of_append rfl rfl]

theorem lt_len_mid {α} (pre suf : List α) (k : α) : ((pre.length : Int) < len (pre ++ k :: suf)) :=
  Int.ofNat_lt.mpr (by rw [List.length_append, List.length_cons]; omega)

theorem not_lt_len_end {α} (pre : List α) : ¬ ((pre.length : Int) < len pre) := Int.lt_irrefl _

/-- a `for _, k := range xs` as translated: the loop state is the position and `s`; `P` is an invariant that `f` keeps -/
theorem loopM_range {κ τ ρ : Type} (body : Int × τ → GoM (Step (Int × τ) ρ)) (f : τ → κ → τ) (P : τ → Prop) (xs : List κ)
    (hstep : ∀ pre k suf s, xs = pre ++ k :: suf → P s →
      body ((pre.length : Int), s) = .ok (.next (((pre.length + 1 : Nat) : Int), f s k)) ∧ P (f s k))
    (hend : ∀ s, body ((xs.length : Int), s) = .ok (.brk ((xs.length : Int), s)))
    (n : Nat) (hn : xs.length < n) (s : τ) (hs : P s) :
    loopM body n ((0 : Int), s) = .ok (.inl ((xs.length : Int), xs.foldl f s)) := by
  refine loopM_fold xs f id P body (fun i hi t ht => ?_) hend n 0 s (Nat.zero_le _) hn hs
  have hl : (xs.take i).length = i := by rw [List.length_take]; exact Nat.min_eq_left (Nat.le_of_lt hi)
  have hb := hstep (xs.take i) xs[i] (xs.drop (i + 1)) t
    (by rw [← List.drop_eq_getElem_cons hi, List.take_append_drop]) ht
  rwa [hl] at hb

theorem loopM_rule {σ ρ : Type} (body : σ → GoM (Step σ ρ)) (Inv : σ → Prop) (mu : σ → Nat)
    (post : σ ⊕ ρ → Prop)
    (hstep : ∀ s, Inv s →
      match body s with
      | .ok (.next s') => Inv s' ∧ mu s' < mu s
      | .ok (.brk s') => post (.inl s')
      | .ok (.ret r) => post (.inr r)
      | .error _ => False) :
    ∀ fuel s, Inv s → mu s < fuel → ∃ r, loopM body fuel s = .ok r ∧ post r := by
  intro fuel
  induction fuel with
  | zero => intro s _ h; omega
  | succ n ih =>
    intro s hi hm
    have h := hstep s hi
    cases hb : body s with
    | error e => rw [hb] at h; exact h.elim
    | ok st =>
      rw [hb] at h
      cases st with
      | next s' => rw [loopM_next hb]; exact ih s' h.1 (by omega)
      | brk s' => exact ⟨_, loopM_brk hb n, h⟩
      | ret r => exact ⟨_, loopM_ret hb n, h⟩

-- parser.go as translated

theorem isNewlineChar_eq (fuel : Nat) (b : UInt8) : Gen.isNewlineChar fuel b = .ok (isNl b) := rfl

theorem ni_cons (b : Byte) (t : Bytes) : newlineIndex (b :: t) =
    if isNl b then (0, if b == 13 && t.head? == some 10 then 2 else 1)
    else ((newlineIndex t).1 + 1, (newlineIndex t).2) := by
  rw [newlineIndex]

/-- the look at the byte after a `\r` at `i`, guarded by `i < len(s) - 1` -/
theorem peekLF_eq (s : Bytes) (i : Nat) (c : Bool) :
    (if (c && decide ((i : Int) < len s - 1)) then (do let b ← idx s ((i : Int) + 1); pure (b == (10 : UInt8)))
      else pure false : GoM Bool) = .ok (c && (s.drop (i + 1)).head? == some 10) := by
  by_cases h : i + 1 < s.length
  · have c1 : (i : Int) < len s - 1 := by rw [len_eq]; omega
    have e : idx s ((i : Int) + 1) = .ok s[i + 1] := idx_ok s (i + 1) h
    rw [List.drop_eq_getElem_cons h, decide_eq_true c1, e]
    cases c
    · rfl
    · rw [Bool.and_true, if_pos rfl, ok_bind, Bool.true_and, List.head?_cons, Option.some_beq_some]; rfl
  · have c1 : ¬ (i : Int) < len s - 1 := by rw [len_eq]; omega
    rw [List.drop_eq_nil_of_le (Nat.le_of_not_lt h), decide_eq_false c1]
    cases c <;> rfl

theorem NewlineIndex_loop1_eq (fuel : Nat) (s : Bytes) (i : Nat) :
    Gen.NewlineIndex_loop1 fuel s (len s) ((i : Int), 0) = .ok (match s.drop i with
      | [] => .brk ((i : Int), 0)
      | b :: t =>
        if isNl b then .brk ((i : Int), if b == 13 && t.head? == some 10 then 2 else 1)
        else .next (((i + 1 : Nat) : Int), 0)) := by
  unfold Gen.NewlineIndex_loop1
  by_cases hlt : i < s.length
  · have c1 : (i : Int) < len s := Int.ofNat_lt.mpr hlt
    rw [List.drop_eq_getElem_cons hlt]
    simp only [peekLF_eq]
    simp only [decide_eq_true c1, if_true, bind, Except.bind, idx_ok s i hlt, isNewlineChar_eq]
    cases isNl s[i]
    · rfl
    · generalize (s[i] == 13 && (s.drop (i + 1)).head? == some 10) = c
      cases c <;> rfl
  · have c1 : ¬ (i : Int) < len s := fun h => hlt (Int.ofNat_lt.mp h)
    rw [List.drop_eq_nil_of_le (Nat.le_of_not_lt hlt)]
    simp only [decide_eq_false c1, Bool.false_eq_true, if_false]; rfl

/-- `fuel` is what the body hands to its callees, `n` what the loop itself may use; `NewlineIndex_eq` puts `fuel` for both -/
theorem NewlineIndex_loop_eq (fuel : Nat) (s : Bytes) : ∀ (n i : Nat), s.length - i < n →
    loopM (Gen.NewlineIndex_loop1 fuel s (len s)) n ((i : Int), 0) =
      .ok (.inl (((i + (newlineIndex (s.drop i)).1 : Nat) : Int), ((newlineIndex (s.drop i)).2 : Int))) := by
  intro n
  induction n with
  | zero => intro i h; exact absurd h (Nat.not_lt_zero _)
  | succ n ih =>
    intro i hn
    have hb := NewlineIndex_loop1_eq fuel s i
    by_cases hlt : i < s.length
    · rw [List.drop_eq_getElem_cons hlt] at hb ⊢
      dsimp only at hb
      rw [ni_cons]
      cases hnl : isNl s[i]
      · rw [hnl] at hb
        rw [loopM_next hb, ih (i + 1) (index_fuel hlt hn)]
        simp only [Bool.false_eq_true, if_false, Nat.add_assoc, Nat.add_comm 1]
      · rw [hnl] at hb
        rw [loopM_brk hb]
        simp only [if_true, Nat.add_zero]
        split <;> rfl
    · rw [List.drop_eq_nil_of_le (Nat.le_of_not_lt hlt)] at hb ⊢
      rw [loopM_brk hb]; rfl

theorem NewlineIndex_eq (fuel : Nat) (s : Bytes) (hf : s.length < fuel) :
    Gen.NewlineIndex fuel s = .ok (((newlineIndex s).1 : Int), ((newlineIndex s).2 : Int)) := by
  have h := NewlineIndex_loop_eq fuel s fuel 0 hf
  rw [List.drop_zero, Nat.zero_add] at h
  -- `h` starts at `((0 : Nat) : Int)`; typed with the literal `(0 : Int)` of the translated code, `simp only [e0]` finds it
  have e0 : loopM (Gen.NewlineIndex_loop1 fuel s (len s)) fuel ((0 : Int), (0 : Int)) = _ := h
  unfold Gen.NewlineIndex
  simp only [bind, Except.bind, e0]; rfl

theorem NextChunk_eq (fuel : Nat) (s : Bytes) (hf : s.length < fuel) :
    Gen.NextChunk fuel s = .ok (nextChunk s) := by
  have hb := Proofs.newlineIndex_le s
  unfold Gen.NextChunk nextChunk
  simp only [ok_bind, NewlineIndex_eq fuel s hf, ← Int.natCast_add, sliceTo_ok s _ (Nat.le_of_add_right_le hb),
    sliceFrom_ok s _ hb, bne, natCast_beq_zero]
  rfl

theorem trimFirstSpace_cons (b : Byte) (t : Bytes) : trimFirstSpace (b :: t) = if b == 32 then t else b :: t := by
  by_cases h : b = 32
  · subst h; rfl
  · rw [if_neg (mt beq_iff_eq.mp h), trimFirstSpace.eq_2]
    intro t' h'; exact h (List.cons.inj h').1

theorem trimFirstSpace_eq (fuel : Nat) (c : Bytes) : Gen.trimFirstSpace fuel c = .ok (trimFirstSpace c) := by
  cases c with
  | nil => rfl
  | cons b t =>
    have h1 : sliceFrom (b :: t) (1 : Int) = .ok t := sliceFrom_ok (b :: t) 1 (Nat.succ_pos _)
    unfold Gen.trimFirstSpace
    rw [guardedIdx_eq (b :: t) 0 0 (b :: t != []) 32 rfl (fun _ => Nat.succ_pos _), ok_bind, trimFirstSpace_cons, h1]
    -- the condition is a Bool coerced to a Prop: written out as `… = true`, `cases` on the Bool reaches it
    show (if (b == 32) = true then _ else _) = _
    cases b == 32 <;> rfl

/-- the wire name of a parsed field name -/
def nameBytes : FName → Bytes
  | .data => fData | .event => fEvent | .retry => fRetry | .id => fId | .comment => [58] | .none => []

theorem getFieldName_eq (fuel : Nat) (b : Bytes) :
    Gen.getFieldName fuel b = .ok (match getFieldName b with | some n => (nameBytes n, true) | none => ([], false)) := by
  unfold Gen.getFieldName getFieldName fData fEvent fRetry fId
  dsimp only
  cases b == ([100, 97, 116, 97] : Bytes)
  · cases b == ([101, 118, 101, 110, 116] : Bytes)
    · cases b == ([114, 101, 116, 114, 121] : Bytes)
      · cases b == ([105, 100] : Bytes) <;> rfl
      · rfl
    · rfl
  · rfl

theorem isSingleLine_eq (fuel : Nat) (p : Bytes) (hf : p.length < fuel) :
    Gen.isSingleLine fuel p = .ok (isSingleLine p) := by
  unfold Gen.isSingleLine isSingleLine
  simp only [ok_bind, NewlineIndex_eq fuel p hf, natCast_beq_zero]
  rfl

theorem topicsIntersect_loop2_eq (fuel : Nat) (at' : Bytes) (b : List Bytes) (hf : b.length < fuel) :
    loopM (Gen.topicsIntersect_loop2 fuel at' b) fuel (0 : Int) =
      .ok (if b.any (fun bt => at' == bt) then .inr true else .inl (b.length : Int)) := by
  refine loopM_find b (fun bt => at' == bt) true _ (fun i h => ?_) ?_ fuel 0 (Nat.zero_le _) hf
  · unfold Gen.topicsIntersect_loop2
    simp only [len_eq, Int.ofNat_lt.mpr h, if_true, idx_ok b i h, ok_bind]
    cases at' == b[i] <;> rfl
  · unfold Gen.topicsIntersect_loop2
    rw [if_neg (not_lt_len_end b)]; rfl

theorem topicsIntersect_eq (fuel : Nat) (a b : List Bytes) (hfa : a.length < fuel) (hfb : b.length < fuel) :
    Gen.topicsIntersect fuel a b = .ok (topicsIntersect a b) := by
  have h := loopM_find a (fun at' => b.any fun bt => at' == bt) true (Gen.topicsIntersect_loop1 fuel b a)
    (fun i h => by
      unfold Gen.topicsIntersect_loop1
      simp only [len_eq, Int.ofNat_lt.mpr h, if_true, idx_ok a i h, ok_bind, topicsIntersect_loop2_eq fuel a[i] b hfb]
      cases b.any (fun bt => a[i] == bt) <;> rfl)
    (by unfold Gen.topicsIntersect_loop1; rw [if_neg (not_lt_len_end a)]; rfl)
    fuel 0 (Nat.zero_le _) hfa
  rw [List.drop_zero] at h
  have e0 : loopM (Gen.topicsIntersect_loop1 fuel b a) fuel (0 : Int) = _ := h
  unfold Gen.topicsIntersect topicsIntersect
  simp only [ok_bind, e0]
  cases a.any (fun at' => b.any fun bt => at' == bt) <;> rfl

theorem newlineIndex_pos (s : Bytes) (h : s ≠ []) : 0 < (newlineIndex s).1 + (newlineIndex s).2 := by
  cases s with
  | nil => exact absurd rfl h
  | cons b t =>
    rw [ni_cons]
    by_cases hb : isNl b = true
    · rw [if_pos hb]
      show 0 < 0 + if (b == 13 && t.head? == some 10) = true then 2 else 1
      split <;> decide
    · rw [if_neg hb]
      exact Nat.lt_of_lt_of_le (Nat.succ_pos _) (Nat.le_add_right _ _)

/-- one iteration of `splitFunc`'s loop, as the model's `splitLoop` does it -/
def splitStep (data : Bytes) (adv st : Nat) : Step (Int × Int) (Int × Option Bytes × Option String) :=
  let r := newlineIndex (data.drop adv)
  let adv' := adv + r.1 + r.2
  let st' := if r.1 == 0 then st + r.2 else st
  if adv' == data.length || (isNl ((data.drop adv').headD 0) && decide (r.1 > 0))
  then .brk ((adv' : Int), (st' : Int)) else .next ((adv' : Int), (st' : Int))

theorem splitStop_eq (fuel : Nat) (data : Bytes) (A ix : Nat) (hA : A ≤ data.length) :
    (if ((A : Int) == len data) then pure true else do
        let b ← idx data (A : Int)
        let r ← Gen.isNewlineChar fuel b
        pure (r && decide ((ix : Int) > 0)) : GoM Bool) =
      .ok (A == data.length || (isNl ((data.drop A).headD 0) && decide (ix > 0))) := by
  have e : decide ((ix : Int) > 0) = decide (ix > 0) := natCast_lt_decide 0 ix
  by_cases hend : A = data.length
  · subst hend
    have c : ((data.length : Int) == len data) = true := beq_self_eq_true _
    rw [if_pos c, beq_self_eq_true, Bool.true_or]; rfl
  · have c : ((A : Int) == len data) = false := by rw [len_eq, natCast_beq, beq_eq_false_iff_ne]; exact hend
    have c' : (A == data.length) = false := by rw [beq_eq_false_iff_ne]; exact hend
    have hlt : A < data.length := by omega
    rw [c, c', idx_ok data A hlt, List.drop_eq_getElem_cons hlt, e]; rfl

theorem splitFunc_loop1_eq (fuel : Nat) (data : Bytes) (hf : data.length < fuel) (adv st : Nat)
    (ha : adv < data.length) :
    Gen.splitFunc_loop1 fuel data ((adv : Int), (st : Int)) = .ok (splitStep data adv st) := by
  have hb := Proofs.newlineIndex_le (data.drop adv)
  have hN := NewlineIndex_eq fuel (data.drop adv) (by rw [List.length_drop]; exact Nat.lt_of_le_of_lt (Nat.sub_le _ _) hf)
  rw [List.length_drop] at hb
  unfold Gen.splitFunc_loop1 splitStep
  generalize newlineIndex (data.drop adv) = r at hb hN ⊢
  have hA : adv + r.1 + r.2 ≤ data.length := by
    rw [Nat.add_assoc]; exact Nat.add_le_of_le_sub' (Nat.le_of_lt ha) hb
  simp only [ok_bind, sliceFrom_ok data adv (Nat.le_of_lt ha), hN, ← Int.natCast_add, ← Nat.add_assoc,
    splitStop_eq fuel data _ r.1 hA]
  rw [natCast_beq_zero]
  generalize (adv + r.1 + r.2 == data.length || (isNl ((data.drop (adv + r.1 + r.2)).headD 0) && decide (r.1 > 0))) = stop
  cases r.1 == 0
  · cases stop <;> rfl
  · cases stop <;> rfl

theorem splitLoop_succ (data : Bytes) (m adv st : Nat) :
    splitLoop data.length (m + 1) (data.drop adv) adv st =
      let r := newlineIndex (data.drop adv)
      let adv' := adv + r.1 + r.2
      let st' := if r.1 == 0 then st + r.2 else st
      if adv' == data.length || (isNl ((data.drop adv').headD 0) && decide (r.1 > 0)) then (adv', st')
      else splitLoop data.length m (data.drop adv') adv' st' := by
  rw [splitLoop, List.drop_drop, ← Nat.add_assoc]

/-- a round that consumes `a + b > 0` bytes and does not reach the end of the data stays in range, one round nearer -/
theorem splitLoop_progress {len adv a b m : Nat} (hpos : 0 < a + b) (hb : a + b ≤ len - adv) (hne : adv + a + b ≠ len)
    (hm : len - adv ≤ m + 1) : adv + a + b < len ∧ len - (adv + a + b) ≤ m := by
  omega

theorem splitLoop_eq (fuel : Nat) (data : Bytes) (hf : data.length < fuel) :
    ∀ (m adv st n : Nat), adv < data.length → data.length - adv ≤ m → m ≤ n →
      loopM (Gen.splitFunc_loop1 fuel data) n ((adv : Int), (st : Int)) =
        .ok (.inl (((splitLoop data.length m (data.drop adv) adv st).1 : Int),
                   ((splitLoop data.length m (data.drop adv) adv st).2 : Int))) := by
  intro m
  induction m with
  | zero => intro adv st n ha hm; exact absurd (Nat.sub_pos_of_lt ha) (Nat.not_lt.mpr hm)
  | succ m ih =>
    intro adv st n ha hm hn
    obtain ⟨n', rfl⟩ := Nat.exists_eq_add_one.mpr (Nat.lt_of_lt_of_le (Nat.succ_pos m) hn)
    have hb := Proofs.newlineIndex_le (data.drop adv)
    rw [List.length_drop] at hb
    have hpos := newlineIndex_pos (data.drop adv)
      (List.ne_nil_of_length_pos (by rw [List.length_drop]; exact Nat.sub_pos_of_lt ha))
    have hbody := splitFunc_loop1_eq fuel data hf adv st ha
    rw [splitLoop_succ]
    unfold splitStep at hbody
    dsimp only at hbody ⊢
    split at hbody
    · next hc => rw [if_pos hc]; exact loopM_brk hbody n'
    · next hc =>
      have hne : adv + (newlineIndex (data.drop adv)).1 + (newlineIndex (data.drop adv)).2 ≠ data.length :=
        fun h => hc (by rw [h, beq_self_eq_true, Bool.true_or])
      obtain ⟨h1, h2⟩ := splitLoop_progress hpos hb hne hm
      rw [if_neg hc, loopM_next hbody]
      exact ih _ _ n' h1 h2 (Nat.le_of_succ_le_succ hn)
theorem splitFunc_eq (fuel : Nat) (data : Bytes) (atEOF : Bool) (hf : data.length < fuel) :
    Gen.splitFunc fuel data atEOF =
      .ok (((splitFunc data atEOF).1 : Int), (splitFunc data atEOF).2, none) := by
  unfold Gen.splitFunc splitFunc
  dsimp only
  rw [len_eq, natCast_beq_zero]
  by_cases hl0 : (data.length == 0) = true
  · rw [if_pos hl0, if_pos hl0]; rfl
  have hpos : 0 < data.length := Nat.pos_of_ne_zero fun h => hl0 (by rw [h]; rfl)
  have hloop := splitLoop_eq fuel data hf (data.length + 1) 0 0 fuel hpos (by omega) (by omega)
  obtain ⟨hr1, hr2⟩ := GoSSE.Proofs.splitFunc_loop_range data
  rw [List.drop_zero] at hloop
  have e0 : loopM (Gen.splitFunc_loop1 fuel data) fuel ((0 : Int), (0 : Int)) = _ := hloop
  generalize splitLoop data.length (data.length + 1) data 0 0 = R at hr1 hr2 e0 ⊢
  obtain ⟨A, S⟩ := R
  dsimp only at hr1 hr2
  rw [if_neg hl0, if_neg hl0, e0, ok_bind]
  dsimp only
  rw [natCast_beq, natCast_lt_decide]
  by_cases hstop : (A == data.length && !atEOF) = true
  · rw [if_pos hstop, if_pos hstop]; rfl
  rw [if_neg hstop, if_neg hstop]
  by_cases hlt : A < data.length
  · -- the byte at `A` ends the line; a `\n` after a `\r` belongs to it
    have ec : decide ((A : Int) + 1 < (data.length : Int)) = decide (A + 1 < data.length) :=
      natCast_lt_decide (A + 1) data.length
    have p13 := guardedIdx_eq data ((A : Int) + 1 - 1) A (decide (A + 1 < data.length)) 13 (by omega) (fun _ => hlt)
    have p10 := guardedIdx_eq data ((A : Int) + 1) (A + 1) (decide (A + 1 < data.length) && data.getD A 0 == 13) 10
      (by omega) (fun h => of_decide_eq_true (Bool.and_eq_true_iff.mp h).1)
    rw [if_pos (decide_eq_true hlt), if_pos hlt, ec, p13, ok_bind, p10, ok_bind, Nat.add_sub_cancel]
    cases hc : (decide (A + 1 < data.length) && data.getD A 0 == 13 && data.getD (A + 1) 0 == 10)
    · have hs : slice data (S : Int) ((A : Int) + 1) = .ok ((data.take (A + 1)).drop S) :=
        slice_ok data S (A + 1) (by omega) (by omega)
      rw [if_neg Bool.false_ne_true, if_neg Bool.false_ne_true, hs]; rfl
    · have h2 : A + 1 < data.length := by
        rw [Bool.and_eq_true, Bool.and_eq_true] at hc; exact of_decide_eq_true hc.1.1
      have hs : slice data (S : Int) ((A : Int) + 1 + 1) = .ok ((data.take (A + 1 + 1)).drop S) :=
        slice_ok data S (A + 1 + 1) (by omega) (by omega)
      rw [if_pos rfl, if_pos rfl, hs]; rfl
  · rw [if_neg (mt of_decide_eq_true hlt), if_neg hlt, slice_ok data S A hr1 hr2]; rfl
theorem stringsIndexByte_eq (s : Bytes) (c : UInt8) :
    stringsIndexByte s c = match indexByte s c with | some i => (i : Int) | none => -1 := by
  unfold stringsIndexByte indexByte
  by_cases h : List.findIdx (fun x => x == c) s < s.length <;> simp [h]

theorem indexByte_lt (s : Bytes) (c : UInt8) (i : Nat) (h : indexByte s c = some i) : i < s.length := by
  unfold indexByte at h
  by_cases h' : List.findIdx (fun x => x == c) s < s.length
  · simp [h'] at h; rw [← h]; exact h'
  · simp [h'] at h

/-- a parsed field, as the translated code stores it in `*Field` -/
def fieldOf (m : Model.Field) : Gen.Field := ⟨nameBytes m.name, m.value⟩

/-- `scanSegment` for a name that ends at `cp`: at the colon, or at the end of a chunk that has none -/
def segmentAt (keepComments : Bool) (chunk : Bytes) (cp : Nat) : Option Model.Field :=
  match getFieldName (chunk.take cp) with
  | some n => some ⟨n, trimFirstSpace (chunk.drop (min (cp + 1) chunk.length))⟩
  | none =>
    if chunk.isEmpty then some ⟨.none, []⟩
    else if cp == 0 && keepComments then some ⟨.comment, trimFirstSpace (chunk.drop (min 1 chunk.length))⟩
    else none

theorem scanSegment_colon (keepComments : Bool) (chunk : Bytes) (cp : Nat) (hi : indexByte chunk 58 = some cp) :
    scanSegment keepComments chunk = if cp > 5 then none else segmentAt keepComments chunk cp := by
  unfold scanSegment; rw [hi]; rfl

theorem scanSegment_noColon (keepComments : Bool) (chunk : Bytes) (hi : indexByte chunk 58 = none) :
    scanSegment keepComments chunk = segmentAt keepComments chunk chunk.length := by
  unfold scanSegment segmentAt
  rw [hi, List.take_length, Nat.min_eq_right (Nat.le_succ _), List.drop_length]
  dsimp only
  cases getFieldName chunk with
  | some n => rfl
  | none => cases chunk <;> rfl

/-- what `scanSegment` does once `colonPos` is settled; the two branches of `if colonPos == -1` share it -/
theorem scanSegment_tail (fuel : Nat) (f : Gen.FieldParser) (chunk : Bytes) (out : Gen.Field) (cp : Nat)
    (hcp : cp ≤ chunk.length) :
    (do
      let s ← sliceTo chunk (cp : Int)
      let r ← Gen.getFieldName fuel s
      if r.2 then do
        let out := { out with Name := r.1 }
        let s2 ← sliceFrom chunk (min ((cp : Int) + 1) (chunk.length : Int))
        let r2 ← Gen.trimFirstSpace fuel s2
        let out := { out with Value := r2 }
        pure (true, f, out)
      else do
        if (chunk == ([] : Bytes)) then do
          let out := { out with Name := ([] : Bytes) }
          let out := { out with Value := ([] : Bytes) }
          pure (true, f, out)
        else do
          if (((cp : Int) == (0 : Int)) && f.keepComments) then do
            let out := { out with Name := ([58] : Bytes) }
            let s3 ← sliceFrom chunk (min (1 : Int) (chunk.length : Int))
            let r3 ← Gen.trimFirstSpace fuel s3
            let out := { out with Value := r3 }
            pure (true, f, out)
          else do
            pure (false, f, out) : GoM (Bool × Gen.FieldParser × Gen.Field)) =
    .ok (match segmentAt f.keepComments chunk cp with
         | some fld => (true, f, fieldOf fld)
         | none => (false, f, out)) := by
  have e1 : min ((cp : Int) + 1) (chunk.length : Int) = ((min (cp + 1) chunk.length : Nat) : Int) :=
    (natCast_min (cp + 1) chunk.length).symm
  have e2 : min (1 : Int) (chunk.length : Int) = ((min 1 chunk.length : Nat) : Int) := (natCast_min 1 chunk.length).symm
  have ce : (chunk == ([] : Bytes)) = chunk.isEmpty := by cases chunk <;> rfl
  -- every slice is in range whichever branch is taken
  simp only [ok_bind, sliceTo_ok chunk cp hcp, getFieldName_eq, e1, e2, natCast_beq_zero, ce,
    sliceFrom_ok chunk _ (Nat.min_le_right _ _), trimFirstSpace_eq]
  unfold segmentAt
  cases getFieldName (chunk.take cp) with
  | some n => rfl
  | none =>
    dsimp only
    cases chunk.isEmpty
    · cases (cp == 0 && f.keepComments) <;> rfl
    · rfl

theorem scanSegment_eq (fuel : Nat) (f : Gen.FieldParser) (chunk : Bytes) (out : Gen.Field) :
    Gen.FieldParser_scanSegment fuel f chunk out =
      .ok (match scanSegment f.keepComments chunk with
           | some fld => (true, f, fieldOf fld)
           | none => (false, f, out)) := by
  unfold Gen.FieldParser_scanSegment
  dsimp only
  cases hi : indexByte chunk 58 with
  | none =>
    have e : stringsIndexByte chunk 58 = -1 := by rw [stringsIndexByte_eq, hi]
    rw [scanSegment_noColon _ _ hi, e, if_neg (by decide), if_pos (by decide)]
    exact scanSegment_tail fuel f chunk out chunk.length (Nat.le_refl _)
  | some cp =>
    have hlt := indexByte_lt chunk 58 cp hi
    have e : stringsIndexByte chunk 58 = (cp : Int) := by rw [stringsIndexByte_eq, hi]
    rw [scanSegment_colon _ _ _ hi, e]
    by_cases h5 : cp > 5
    · have c1 : decide ((cp : Int) > 5) = true := decide_eq_true (Int.ofNat_lt.mpr h5)
      rw [if_pos c1, if_pos h5]; rfl
    · have c1 : ¬ decide ((cp : Int) > 5) = true := fun h => h5 (Int.ofNat_lt.mp (of_decide_eq_true h))
      have c2 : ¬ ((cp : Int) == (-1 : Int)) = true := fun h => by have := beq_iff_eq.mp h; omega
      rw [if_neg c1, if_neg c2, if_neg h5]
      exact scanSegment_tail fuel f chunk out cp (by omega)
/-- the model state a translated `FieldParser` value stands for (the error is `ErrUnexpectedEOF` or nil) -/
def absFP (f : Gen.FieldParser) : FP :=
  { data := f.data, err := f.err.isSome, started := f.started, keepComments := f.keepComments, removeBOM := f.removeBOM }

theorem doRemoveBOM_eq (fuel : Nat) (f : Gen.FieldParser) :
    ∃ f', Gen.FieldParser_doRemoveBOM fuel f = .ok f' ∧ absFP f' = (absFP f).doRemoveBOM ∧ f'.err = f.err := by
  unfold Gen.FieldParser_doRemoveBOM FP.doRemoveBOM
  show ∃ f', (if (f.removeBOM && !f.started && bom.isPrefixOf f.data) = true then _ else _) = _ ∧
    absFP f' = (if (f.removeBOM && !f.started && bom.isPrefixOf f.data) = true then _ else _) ∧ _
  cases hc : (f.removeBOM && !f.started && bom.isPrefixOf f.data)
  · exact ⟨f, rfl, rfl, rfl⟩
  · have hlen : 3 ≤ f.data.length := (List.isPrefixOf_iff_prefix.mp (Bool.and_eq_true_iff.mp hc).2).length_le
    have hs : sliceFrom f.data (3 : Int) = .ok (f.data.drop 3) := sliceFrom_ok f.data 3 hlen
    rw [if_pos rfl, if_pos rfl, hs]
    exact ⟨_, rfl, rfl, rfl⟩

theorem Reset_eq (fuel : Nat) (f : Gen.FieldParser) (data : Bytes) :
    ∃ f', Gen.FieldParser_Reset fuel f data = .ok f' ∧ absFP f' = (absFP f).reset data ∧ f'.err = none := by
  obtain ⟨f', h1, h2, h3⟩ := doRemoveBOM_eq fuel { f with data := data, err := none, started := false }
  refine ⟨f', ?_, ?_, by rw [h3]⟩
  · unfold Gen.FieldParser_Reset
    simp only [bind, Except.bind, pure, Except.pure]
    rw [h1]
  · rw [h2]; rfl

theorem RemoveBOM_eq (fuel : Nat) (f : Gen.FieldParser) (b : Bool) :
    ∃ f', Gen.FieldParser_RemoveBOM fuel f b = .ok f' ∧ absFP f' = (absFP f).setRemoveBOM b ∧ f'.err = f.err := by
  obtain ⟨f', h1, h2, h3⟩ := doRemoveBOM_eq fuel { f with removeBOM := b }
  refine ⟨f', ?_, ?_, by rw [h3]⟩
  · unfold Gen.FieldParser_RemoveBOM
    simp only [bind, Except.bind, pure, Except.pure]
    rw [h1]
  · rw [h2]; rfl

theorem nextChunk_rem_lt (s : Bytes) (h : s ≠ []) : (nextChunk s).2.1.length < s.length := by
  have hb := Proofs.newlineIndex_le s
  have hp := newlineIndex_pos s h
  have hl : 0 < s.length := List.length_pos_iff.mpr h
  show (s.drop _).length < _
  rw [List.length_drop]; omega

/-- what the loop of the translated `FieldParser.Next` leaves, against the model's `FP.next` -/
def NextRes (out : Gen.Field) (res : (Gen.FieldParser × Gen.Field) ⊕ (Bool × Gen.FieldParser × Gen.Field))
    (m : Option Model.Field × FP) : Prop :=
  match m.1 with
  | some fld => ∃ f', res = .inr (true, f', fieldOf fld) ∧ absFP f' = m.2
  | none => ∃ f', (res = .inl (f', out) ∨ res = .inr (false, f', out)) ∧ absFP f' = m.2

/-- one iteration of the loop of the translated `FieldParser.Next` -/
def nextStep (f : Gen.FieldParser) (out : Gen.Field) :
    Step (Gen.FieldParser × Gen.Field) (Bool × Gen.FieldParser × Gen.Field) :=
  if f.data = [] then .brk (f, out) else
  let r := nextChunk f.data
  if !r.2.2 then .ret (false, { f with started := true, err := some "ErrUnexpectedEOF" }, out)
  else match scanSegment f.keepComments r.1 with
    | some fld => .ret (true, { f with started := true, data := r.2.1 }, fieldOf fld)
    | none => .next ({ f with started := true, data := r.2.1 }, out)

theorem Next_loop1_eq (fuel : Nat) (f : Gen.FieldParser) (out : Gen.Field) (hf : f.data.length < fuel) :
    Gen.FieldParser_Next_loop1 fuel (f, out) = .ok (nextStep f out) := by
  unfold Gen.FieldParser_Next_loop1 nextStep
  by_cases hd : f.data = []
  · have c1 : (f.data != ([] : Bytes)) = false := by simp [hd]
    rw [if_pos hd]
    simp only [c1, Bool.false_eq_true, if_false, pure, Except.pure]
  · have c1 : (f.data != ([] : Bytes)) = true := by simpa using hd
    rw [if_neg hd]
    simp only [c1, if_true, bind, Except.bind, NextChunk_eq fuel f.data hf]
    by_cases hnl : (nextChunk f.data).2.2 = true
    · simp only [hnl, Bool.not_true, Bool.false_eq_true, if_false, scanSegment_eq]
      cases hs : scanSegment f.keepComments (nextChunk f.data).1 with
      | some fld => simp only [Bool.not_true, Bool.false_eq_true, if_false, pure, Except.pure]
      | none => simp only [Bool.not_false, if_true, pure, Except.pure]
    · have hnl' : (nextChunk f.data).2.2 = false := by simpa using hnl
      simp only [hnl', Bool.not_false, if_true, pure, Except.pure]

theorem next_succ (m : Nat) (f : FP) : FP.next (m + 1) f =
    if f.data.isEmpty then (none, f) else
      if !(nextChunk f.data).2.2 then (none, { f with started := true, err := true })
      else match scanSegment f.keepComments (nextChunk f.data).1 with
        | some fld => (some fld, { f with started := true, data := (nextChunk f.data).2.1 })
        | none => FP.next m { f with started := true, data := (nextChunk f.data).2.1 } := by
  rw [FP.next]; rfl

theorem Next_loop_eq (fuel : Nat) :
    ∀ (m n : Nat) (f : Gen.FieldParser) (out : Gen.Field), f.data.length < m → m ≤ n → f.data.length < fuel →
      ∃ res, loopM (Gen.FieldParser_Next_loop1 fuel) n (f, out) = .ok res ∧ NextRes out res (FP.next m (absFP f)) := by
  intro m
  induction m with
  | zero => intro n f out h; exact absurd h (Nat.not_lt_zero _)
  | succ m ih =>
    intro n f out hm hn hf
    obtain ⟨n', rfl⟩ := Nat.exists_eq_add_one.mpr (Nat.lt_of_lt_of_le (Nat.succ_pos m) hn)
    have hbody := Next_loop1_eq fuel f out hf
    unfold nextStep at hbody
    rw [next_succ]
    by_cases hd : f.data = []
    · rw [if_pos hd] at hbody
      rw [if_pos (show (absFP f).data.isEmpty = true by rw [List.isEmpty_iff]; exact hd)]
      exact ⟨_, loopM_brk hbody n', f, Or.inl rfl, rfl⟩
    · rw [if_neg hd] at hbody
      rw [if_neg (show ¬ (absFP f).data.isEmpty = true by rw [List.isEmpty_iff]; exact hd)]
      dsimp only [absFP]
      by_cases hnl : (nextChunk f.data).2.2 = true
      · have hrem := nextChunk_rem_lt f.data hd
        simp only [hnl, Bool.not_true, Bool.false_eq_true, if_false] at hbody ⊢
        cases hs : scanSegment f.keepComments (nextChunk f.data).1 with
        | some fld =>
          rw [hs] at hbody
          exact ⟨_, loopM_ret hbody n', _, rfl, rfl⟩
        | none =>
          rw [hs] at hbody
          rw [loopM_next hbody]
          exact ih n' { f with started := true, data := (nextChunk f.data).2.1 } out
            (Nat.lt_of_lt_of_le hrem (Nat.le_of_lt_succ hm)) (Nat.le_of_succ_le_succ hn) (Nat.lt_trans hrem hf)
      · simp only [Bool.eq_false_iff.mpr hnl, Bool.not_false, if_true] at hbody ⊢
        exact ⟨_, loopM_ret hbody n', _, Or.inr rfl, rfl⟩

theorem Next_eq (fuel : Nat) (f : Gen.FieldParser) (out : Gen.Field) (hf : f.data.length + 1 < fuel) :
    ∃ f' out' ok, Gen.FieldParser_Next fuel f out = .ok (ok, f', out') ∧
      absFP f' = (FP.next (f.data.length + 1) (absFP f)).2 ∧
      (match (FP.next (f.data.length + 1) (absFP f)).1 with
       | some fld => ok = true ∧ out' = fieldOf fld
       | none => ok = false ∧ out' = out) := by
  obtain ⟨res, hr, hres⟩ := Next_loop_eq fuel (f.data.length + 1) fuel f out (Nat.lt_succ_self _) (Nat.le_of_lt hf)
    (Nat.lt_of_succ_lt hf)
  unfold Gen.FieldParser_Next
  simp only [bind, Except.bind, hr, pure, Except.pure]
  unfold NextRes at hres
  cases hm : (FP.next (f.data.length + 1) (absFP f)).1 with
  | some fld =>
    rw [hm] at hres
    obtain ⟨f', rfl, ha⟩ := hres
    exact ⟨f', _, true, rfl, ha, rfl, rfl⟩
  | none =>
    rw [hm] at hres
    obtain ⟨f', h | h, ha⟩ := hres
    · subst h; exact ⟨f', out, false, rfl, ha, rfl, rfl⟩
    · subst h; exact ⟨f', out, false, rfl, ha, rfl, rfl⟩

end GoSSE.GenEquiv
