import GoSSE.Proofs.GenEquiv
/-!
# The ring buffer of replay.go as translated = `Model.Queue`, panics included

`queue[T].enqueue / dequeue / resize` (in `Gen/Root.lean`, every index, slice, `make` and `copy` a checked operation)
at `T = Slot` agree with `Model.Queue` on every queue state, well-formed
or not: the same new state, and a panic exactly where the model says the Go code panics.
-/
namespace GoSSE.GenEquiv
open GoSSE GoSSE.GoRT GoSSE.Model GoSSE.Spec

def toGen (q : Queue) : Gen.queue Slot :=
  { buf := q.buf, head := (q.head : Int), tail := (q.tail : Int), count := (q.count : Int) }

/-- a translated computation agrees with a model outcome: the same value (through `v`), or a panic on both sides.
Translated side first, here and in `Agrees`; `EachAgrees`, `PutAgrees`, `ReplayAgrees`, `GcAgrees` take the model's outcome first. -/
def AgreesV {α β : Type} (v : α → β) (g : GoM β) (m : QRes α) : Prop :=
  match m with
  | .ok a => g = .ok (v a)
  | .panic => ∃ msg, g = .error (.panic msg)

/-- for a goal in which both `g` and `m` occur; the `ok` case is told which outcome of the model it is -/
@[elab_as_elim]
theorem AgreesV.elim' {α β : Type} {v : α → β} {motive : GoM β → QRes α → Prop} {g : GoM β} {m : QRes α}
    (h : AgreesV v g m) (ok : ∀ a, m = .ok a → motive (.ok (v a)) (.ok a))
    (panic : ∀ msg, motive (.error (.panic msg)) .panic) : motive g m := by
  cases m with
  | ok a => rw [show g = .ok (v a) from h]; exact ok a rfl
  | panic => obtain ⟨msg, hm⟩ := h; rw [hm]; exact panic msg

@[elab_as_elim]
theorem AgreesV.elim {α β : Type} {v : α → β} {motive : GoM β → QRes α → Prop} {g : GoM β} {m : QRes α}
    (h : AgreesV v g m) (ok : ∀ a, motive (.ok (v a)) (.ok a))
    (panic : ∀ msg, motive (.error (.panic msg)) .panic) : motive g m :=
  h.elim' (motive := motive) (fun a _ => ok a) panic

theorem AgreesV.map {α β γ : Type} {v : α → β} {g : GoM β} {m : QRes α} (f : β → γ) (h : AgreesV v g m) :
    AgreesV (fun a => f (v a)) (Except.map f g) m :=
  h.elim (fun _ => rfl) (fun msg => ⟨msg, rfl⟩)

theorem AgreesV.ite {α β : Type} {v : α → β} {c : Prop} [Decidable c] {g₁ g₂ : GoM β} {m₁ m₂ : QRes α}
    (h₁ : c → AgreesV v g₁ m₁) (h₂ : ¬c → AgreesV v g₂ m₂) :
    AgreesV v (if c then g₁ else g₂) (if c then m₁ else m₂) := by
  by_cases h : c
  · rw [if_pos h, if_pos h]; exact h₁ h
  · rw [if_neg h, if_neg h]; exact h₂ h

/-- `AgreesV toGen`, written out -/
def Agrees (g : GoM (Gen.queue Slot)) (m : QRes Queue) : Prop :=
  match m with
  | .ok q' => g = .ok (toGen q')
  | .panic => ∃ msg, g = .error (.panic msg)

theorem Agrees.agreesV {g : GoM (Gen.queue Slot)} {m : QRes Queue} (h : Agrees g m) : AgreesV toGen g m := by
  cases m <;> exact h

theorem enqueue_eq (fuel : Nat) (q : Queue) (v : Entry) :
    Agrees (Gen.queue_enqueue fuel (toGen q) (some v)) (Queue.enqueue q v) := by
  unfold Gen.queue_enqueue Queue.enqueue toGen Agrees
  by_cases ht : q.tail < q.buf.length
  · simp only [if_pos ht, bind, Except.bind, setIdx_ok q.buf q.tail (some v) ht, len, List.length_set,
      cast_succ, natCast_beq, gt_iff_lt, Int.ofNat_lt, pure, Except.pure]
    generalize (decide (q.head < q.tail + 1) && q.count == q.buf.length) = full
    by_cases hw : q.tail + 1 = q.buf.length
    · rw [if_pos hw, beq_iff_eq.mpr hw]
      cases full <;> rfl
    · rw [if_neg hw, beq_eq_false_iff_ne.mpr hw]
      cases full <;> rfl
  · simp only [if_neg ht, bind, Except.bind, setIdx_panic q.buf q.tail (some v) ht]
    exact ⟨_, rfl⟩

/-- `dequeue` is only called with `count > 0` (the model's `count - 1` is natural-number subtraction) -/
theorem dequeue_eq (fuel : Nat) (q : Queue) (hc : 0 < q.count) :
    Agrees (Gen.queue_dequeue fuel (toGen q)) (Queue.dequeue q) := by
  unfold Gen.queue_dequeue Queue.dequeue toGen Agrees
  by_cases hh : q.head < q.buf.length
  · have hs : setIdx q.buf (q.head : Int) (default : Slot) = .ok (q.buf.set q.head none) :=
      setIdx_ok q.buf q.head none hh
    simp only [if_pos hh, bind, Except.bind, hs, len, List.length_set, cast_succ, cast_pred _ hc, natCast_beq, pure,
      Except.pure]
    by_cases hw : q.head + 1 = q.buf.length
    · rw [if_pos (beq_iff_eq.mpr hw), if_pos hw]; rfl
    · rw [if_neg (mt beq_iff_eq.mp hw), if_neg hw]; rfl
  · simp only [if_neg hh, bind, Except.bind, setIdx_panic q.buf q.head default hh]
    exact ⟨_, rfl⟩

theorem copyInto_eq (dst : List Slot) (off : Nat) (src : List Slot) (h : off ≤ dst.length) :
    copyInto dst (off : Int) src =
      .ok (dst.take off ++ (Queue.copy (dst.drop off) src).1, ((Queue.copy (dst.drop off) src).2 : Int)) := by
  rw [copyInto_natCast dst src off h]
  unfold Queue.copy
  simp only [List.length_drop, List.drop_drop, List.append_assoc]

theorem copyInto0_eq (dst src : List Slot) :
    copyInto dst (0 : Int) src = .ok ((Queue.copy dst src).1, ((Queue.copy dst src).2 : Int)) :=
  copyInto_eq dst 0 src (Nat.zero_le _)

theorem copy_snd_le (dst src : List Slot) : (Queue.copy dst src).2 ≤ dst.length := Nat.min_le_left _ _

theorem copy_fst_length (dst src : List Slot) : (Queue.copy dst src).1.length = dst.length := by
  unfold Queue.copy
  rw [List.length_append, List.length_take, List.length_drop, Nat.min_eq_left (Nat.min_le_right _ _),
    Nat.add_sub_cancel' (Nat.min_le_left _ _)]

theorem resize_eq (fuel : Nat) (q : Queue) (n : Nat) :
    Agrees (Gen.queue_resize fuel (toGen q) (n : Int)) (Queue.resize q n) := by
  unfold Gen.queue_resize Queue.resize toGen Agrees
  simp only [bind, Except.bind, makeSlice_natCast, Int.ofNat_lt]
  by_cases hlt : q.head < q.tail
  · simp only [hlt, decide_true, if_true]
    by_cases ht : q.tail ≤ q.buf.length
    · simp only [if_pos ht, slice_ok q.buf q.head q.tail (Nat.le_of_lt hlt) ht, copyInto0_eq, pure, Except.pure]
      rfl
    · simp only [if_neg ht, slice_panic q.buf q.head q.tail (fun h => ht h.2)]
      exact ⟨_, rfl⟩
  · simp only [hlt, decide_false, Bool.false_eq_true, if_false]
    by_cases hh : q.head ≤ q.buf.length
    · simp only [if_pos hh, sliceFrom_ok q.buf q.head hh, copyInto0_eq]
      by_cases ht : q.tail ≤ q.buf.length
      · simp only [if_pos ht, sliceTo_ok q.buf q.tail ht]
        generalize hr : Queue.copy (List.replicate n none) (q.buf.drop q.head) = r
        have hle : r.2 ≤ r.1.length := by
          rw [← hr, copy_fst_length]; exact copy_snd_le _ _
        simp only [copyInto_eq r.1 r.2 (q.buf.take q.tail) hle, pure, Except.pure]
        rfl
      · simp only [if_neg ht, sliceTo_panic q.buf q.tail ht]
        exact ⟨_, rfl⟩
    · simp only [if_neg hh, sliceFrom_panic q.buf q.head hh]
      exact ⟨_, rfl⟩

end GoSSE.GenEquiv
