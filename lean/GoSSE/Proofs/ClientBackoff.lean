import GoSSE.Model.Connection
/-!
Helper lemmas for C12: one step of the back-off controller, iterated steps, what a connection does
to the controller, and the correspondence with the specification's closed forms.
-/
namespace GoSSE.Proofs.ClientBackoff
open GoSSE GoSSE.Spec GoSSE.Spec.Client GoSSE.Model GoSSE.Model.Client

/-- the base after `b` -/
def growI (cfg : Cfg) (fl : Floats) (b : Int) : Int := growInterval fl b cfg.maxInterval

def iter (f : Int → Int) : Nat → Int → Int
  | 0, b => b
  | k + 1, b => iter f k (f b)

theorem iter_succ' (f : Int → Int) (k : Nat) (b : Int) : iter f (k + 1) b = f (iter f k b) := by
  induction k generalizing b with
  | zero => rfl
  | succ k ih => simp only [iter] at ih ⊢; rw [ih]

/-- the retry limit refuses -/
def limitHit (cfg : Cfg) (c : Ctl) : Bool :=
  cfg.maxRetries < 0 || (cfg.maxRetries > 0 && c.numRetries == cfg.maxRetries)

theorem limitHit_of_neg (cfg : Cfg) (c : Ctl) (h : cfg.maxRetries < 0) : limitHit cfg c = true := by
  unfold limitHit; rw [decide_eq_true h]; rfl

theorem ne_max_of_not_limitHit (cfg : Cfg) (c : Ctl) (hm : cfg.maxRetries > 0) (h : limitHit cfg c = false) :
    c.numRetries ≠ cfg.maxRetries := by
  intro e
  simp [limitHit, hm, e] at h

theorem next_limit (cfg : Cfg) (fl : Floats) (c : Ctl) (now draw : Int) (h : limitHit cfg c = true) :
    c.next cfg fl now draw = (c, none) := by
  unfold Ctl.next; unfold limitHit at h; simp [h]

theorem next_step (cfg : Cfg) (fl : Floats) (c : Ctl) (now draw : Int) (h : limitHit cfg c = false) :
    (c.next cfg fl now draw).1 = { c with numRetries := c.numRetries + 1, interval := growI cfg fl c.interval } ∧
    (c.next cfg fl now draw).2 =
      if cfg.maxElapsedTime > 0 && now - c.start + nextInterval cfg fl c.interval draw > cfg.maxElapsedTime then none
      else some (nextInterval cfg fl c.interval draw) := by
  unfold Ctl.next; unfold limitHit at h
  simp only [h, Bool.false_eq_true, if_false]
  rw [apply_ite Prod.fst, apply_ite Prod.snd]
  exact ⟨ite_self _, rfl⟩

theorem next_some (cfg : Cfg) (fl : Floats) (c : Ctl) (now draw w : Int)
    (h : (c.next cfg fl now draw).2 = some w) :
    limitHit cfg c = false ∧
    w = nextInterval cfg fl c.interval draw ∧
    (c.next cfg fl now draw).1 = { c with numRetries := c.numRetries + 1, interval := growI cfg fl c.interval } ∧
    (cfg.maxElapsedTime > 0 → now - c.start + w ≤ cfg.maxElapsedTime) := by
  cases hl : limitHit cfg c with
  | true => rw [next_limit _ _ _ _ _ hl] at h; cases h
  | false =>
    have hs := next_step cfg fl c now draw hl
    rw [hs.2] at h
    split at h
    · cases h
    · rename_i hcond
      have hw : w = nextInterval cfg fl c.interval draw := by simpa using h.symm
      refine ⟨rfl, hw, hs.1, ?_⟩
      intro hpos
      subst hw
      simp only [Bool.and_eq_true, decide_eq_true_eq, not_and, Int.not_lt] at hcond
      exact Int.not_lt.mp (fun hgt => by have := hcond hpos; omega)

/-- consecutive `next` calls: `(now, draw)` per call -/
def nexts (cfg : Cfg) (fl : Floats) : Ctl → List (Int × Int) → List (Option Int)
  | _, [] => []
  | c, s :: rest => (c.next cfg fl s.1 s.2).2 :: nexts cfg fl (c.next cfg fl s.1 s.2).1 rest

/-- after a successful connection the controller depends only on the clock reading and the stream's retry fields: count
0, series restarted, base = the stream's last retry value if positive, else `InitialInterval` -/
theorem applyRetries_eq (cfg : Cfg) (ctl : Ctl) (outs : List Out) (now : Int) :
    applyRetries cfg ctl outs now =
      { start := now, interval := retryInterval cfg.initialInterval outs, numRetries := 0 } := by
  -- every `reset` sets all three fields, so the fold over controllers is the fold over intervals
  have gen : ∀ (outs : List Out) (cur : Int),
      outs.foldl (fun ctl o => match o with
        | .retry n => Ctl.reset cfg ctl (wrap64 ((n : Int) * 1000000)) now
        | _ => ctl) { start := now, interval := cur, numRetries := 0 } =
      { start := now, numRetries := 0, interval := outs.foldl (fun cur o => match o with
        | .retry n => let d := wrap64 ((n : Int) * 1000000); if d > 0 then d else cfg.initialInterval
        | _ => cur) cur } := by
    intro outs
    induction outs with
    | nil => intro cur; rfl
    | cons o outs ih =>
      intro cur
      cases o with
      | event e => exact ih cur
      | retry n => rw [List.foldl_cons, List.foldl_cons]; exact ih _
  have h0 : ctl.reset cfg 0 now = { start := now, interval := cfg.initialInterval, numRetries := 0 } := by
    simp [Ctl.reset]
  unfold applyRetries retryInterval
  rw [h0]
  exact gen outs cfg.initialInterval

theorem retryInterval_eq_retryBase (initial : Int) (outs : List Out) :
    retryInterval initial outs = retryBase initial outs := by
  have gen : ∀ (outs : List Out) (cur : Int),
      outs.foldl (fun cur o => match o with
        | .retry n => let d := wrap64 ((n : Int) * 1000000); if d > 0 then d else initial
        | _ => cur) cur =
      match (outs.filterMap fun o => match o with | .retry n => some (n : Int) | _ => none).getLast? with
      | none => cur
      | some n =>
        let d := ((n * 1000000 + 9223372036854775808) % 18446744073709551616) - 9223372036854775808
        if d > 0 then d else initial := by
    intro outs
    induction outs with
    | nil => intro cur; rfl
    | cons o outs ih =>
      intro cur
      rw [List.foldl_cons, ih]
      cases o with
      | event e => rfl
      | retry n =>
        -- a later retry field, if there is one, overrides this one
        simp only [List.filterMap_cons, List.getLast?_cons]
        cases (outs.filterMap fun o => match o with | .retry n => some (n : Int) | _ => none).getLast? <;> rfl
  unfold retryInterval retryBase
  exact gen outs initial

theorem wrap64_of_small (x : Int) (h0 : 0 ≤ x) (h1 : x ≤ 9223372036854775807) : wrap64 x = x := by
  unfold wrap64
  rw [Int.emod_eq_of_lt (by omega) (by omega)]
  omega

theorem retryBase_concat_retry (initial : Int) (pre : List Out) (n : Nat) :
    retryBase initial (pre ++ [.retry n]) =
      if wrap64 ((n : Int) * 1000000) > 0 then wrap64 ((n : Int) * 1000000) else initial := by
  simp [retryBase, wrap64, List.filterMap_append]

/-- the configuration as the specification sees it, for `Multiplier` realised by `fl.grow` -/
def scfg (cfg : Cfg) (fl : Floats) : SCfg :=
  { initialInterval := cfg.initialInterval, maxInterval := cfg.maxInterval, maxElapsedTime := cfg.maxElapsedTime,
    maxRetries := cfg.maxRetries, jitterOff := cfg.jitterOff, mul := fl.grow }

/-- the float comparison of `growInterval` agrees with the product it guards -/
def CapOK (fl : Floats) : Prop := ∀ c m : Int, m > 0 → (fl.capped c m = true ↔ m ≤ fl.grow c)

theorem growI_eq_nextBase (cfg : Cfg) (fl : Floats) (h : CapOK fl) (b : Int) :
    growI cfg fl b = nextBase (scfg cfg fl) b := by
  unfold growI growInterval nextBase scfg
  by_cases hm : cfg.maxInterval > 0
  · by_cases hc : fl.capped b cfg.maxInterval = true
    · have := (h b cfg.maxInterval hm).mp hc
      simp [hm, hc]; omega
    · have : ¬ cfg.maxInterval ≤ fl.grow b := fun hle => hc ((h b cfg.maxInterval hm).mpr hle)
      simp [hm, hc]; omega
  · simp [hm]

theorem iter_eq_baseAt (cfg : Cfg) (fl : Floats) (h : CapOK fl) (b1 : Int) (k : Nat) :
    iter (growI cfg fl) k b1 = baseAt (scfg cfg fl) b1 k := by
  induction k with
  | zero => rfl
  | succ k ih => rw [iter_succ', ih, growI_eq_nextBase cfg fl h]; rfl

/-- the exact-arithmetic instance used by the driver satisfies `CapOK` (non-vacuity) -/
theorem exactFloats_capOK (mn : Int) (md : Nat) (jn : Int) (jd : Nat) (hmd : 0 < md) (hmn : 0 ≤ mn) :
    ∀ c m : Int, 0 ≤ c → m > 0 → ((exactFloats mn md jn jd).capped c m = true ↔ m ≤ (exactFloats mn md jn jd).grow c) := by
  intro c m hc hm
  simp only [exactFloats, decide_eq_true_eq, ge_iff_le]
  have hpos : (0 : Int) < md := by exact_mod_cast hmd
  have hnn : 0 ≤ c * mn := Int.mul_nonneg hc hmn
  rw [Int.tdiv_eq_ediv_of_nonneg hnn]
  exact (Int.le_ediv_iff_mul_le hpos).symm

theorem scaled_div_bounds (A X u d K : Int) (hd : 0 < d) (hK : 0 < K) (hX : 0 ≤ X) (hu0 : 0 ≤ u) (hu : u ≤ K) :
    A / d ≤ (A * K + u * X) / (d * K) ∧ (A * K + u * X) / (d * K) ≤ (A + X) / d := by
  have hdK : 0 < d * K := Int.mul_pos hd hK
  constructor
  · rw [← Int.mul_ediv_mul_of_pos_left A d hK]
    exact Int.ediv_le_ediv hdK (Int.le_add_of_nonneg_right (Int.mul_nonneg hu0 hX))
  · rw [← Int.mul_ediv_mul_of_pos_left (A + X) d hK, Int.add_mul]
    apply Int.ediv_le_ediv hdK (Int.add_le_add_left _ _)
    rw [Int.mul_comm X K]; exact Int.mul_le_mul_of_nonneg_right hu hX

/-- the randomised interval for base `c`, `Jitter · c = x/d` and draw `u/K`: `min + u·(max − min + 1)` over the common
denominator `d·K`, with `min = c − x/d`, `max = c + x/d`, lies within `⌊x/d⌋ + 1` of `c` -/
theorem jitter_div_bounds (c x u d K : Int) (hd : 0 < d) (hK : 0 < K) (hx : 0 ≤ x) (hu0 : 0 ≤ u) (hu : u ≤ K) :
    c - (x / d + 1) ≤ ((c * d - x) * K + u * (2 * x + d)) / (d * K) ∧
    ((c * d - x) * K + u * (2 * x + d)) / (d * K) ≤ c + x / d + 1 := by
  obtain ⟨hlo, hhi⟩ := scaled_div_bounds (c * d - x) (2 * x + d) u d K hd hK (by omega) hu0 hu
  constructor
  · refine Int.le_trans ?_ hlo
    rw [Int.le_ediv_iff_mul_le hd, Int.sub_mul]
    have := Int.lt_ediv_add_one_mul_self x hd
    omega
  · refine Int.le_trans hhi (Int.le_of_eq ?_)
    have e : c * d - x + (2 * x + d) = x + (c + 1) * d := by rw [Int.add_mul, Int.one_mul]; omega
    rw [e, Int.add_mul_ediv_right _ _ (Int.ne_of_gt hd)]; omega

theorem exactFloats_jitter_bounds (mn : Int) (md : Nat) (jn : Int) (jd : Nat) (hjd : 0 < jd) (hjn : 0 ≤ jn) (hlt : jn < jd)
    (c u : Int) (hc : 0 ≤ c) (hu0 : 0 ≤ u) (hu : u < 9007199254740992) :
    c - (jn * c / jd + 1) ≤ (exactFloats mn md jn jd).jitter c u ∧
    (exactFloats mn md jn jd).jitter c u ≤ c + (jn * c / jd + 1) + 1 := by
  simp only [exactFloats]
  have hx : 0 ≤ jn * c := Int.mul_nonneg hjn hc
  -- the numerator is not negative, so truncation is the floor
  have hA : 0 ≤ c * jd - jn * c := by
    have : jn * c ≤ jd * c := Int.mul_le_mul_of_nonneg_right (Int.le_of_lt hlt) hc
    rw [Int.mul_comm (jd : Int) c] at this; omega
  rw [Int.mul_assoc 2 jn c, Int.tdiv_eq_ediv_of_nonneg
    (Int.add_nonneg (Int.mul_nonneg hA (by decide)) (Int.mul_nonneg hu0 (by omega)))]
  have := jitter_div_bounds c (jn * c) u jd 9007199254740992 (Int.natCast_pos.mpr hjd) (by decide) hx hu0 (Int.le_of_lt hu)
  omega

theorem retryInterval_nonneg (initial : Int) (h0 : 0 ≤ initial) (outs : List Out) : 0 ≤ retryInterval initial outs := by
  rw [retryInterval_eq_retryBase]
  unfold retryBase
  split
  · exact h0
  · simp only []
    split <;> omega

theorem growI_nonneg_exact (cfg : Cfg) (mn : Int) (md : Nat) (jn : Int) (jd : Nat) (hmn : 0 ≤ mn) (b : Int) (hb : 0 ≤ b) :
    0 ≤ growI cfg (exactFloats mn md jn jd) b := by
  unfold growI growInterval
  split
  · rename_i h
    simp only [Bool.and_eq_true, decide_eq_true_eq] at h
    omega
  · simp only [exactFloats]
    exact Int.tdiv_nonneg (Int.mul_nonneg hb hmn) (Int.natCast_nonneg md)

/-- the two tests `mergeDefaults` makes on a float, against the value's class: `Multiplier` (first test) and `Jitter`
(second test) are replaced by the default exactly when the class is not kept; -1 survives as `Jitter` -/
theorem FV.tests_eq (x : FV) (h : ∀ n d, x = .rat n d → 0 < d) :
    FV.ops.ltOne x = !keepMultiplier x.cls ∧
    (!FV.ops.isMinusOne x && (FV.ops.leZero x || FV.ops.geOne x)) = !keepJitter x.cls := by
  cases x with
  | nan => exact ⟨rfl, rfl⟩
  | rat n d =>
    have hd := h n d rfl
    unfold FV.cls
    simp only [FV.ops]
    by_cases e1 : n = -(d : Int)
    · rw [if_pos (beq_iff_eq.mpr e1), beq_iff_eq.mpr e1]
      exact ⟨decide_eq_true (by omega), rfl⟩
    · rw [if_neg (mt beq_iff_eq.mp e1), beq_false_of_ne e1]
      by_cases e2 : n ≤ 0
      · rw [if_pos e2, decide_eq_true e2]
        exact ⟨decide_eq_true (by omega), rfl⟩
      · rw [if_neg e2, decide_eq_false e2]
        by_cases e3 : n < d
        · rw [if_pos e3, decide_eq_true e3, decide_eq_false (by omega : ¬ n ≥ (d : Int))]
          exact ⟨rfl, rfl⟩
        · rw [if_neg e3, decide_eq_false e3, decide_eq_true (by omega : n ≥ (d : Int))]
          exact ⟨rfl, rfl⟩

end GoSSE.Proofs.ClientBackoff
