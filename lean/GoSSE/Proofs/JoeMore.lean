import GoSSE.Proofs.JoeDeliv
/-!
Further invariants of Joe's transition system: the log has no duplicates, a subscription's
window only ends for its own reasons (own failure, own cancellation, shutdown). Runs (`Run`): a window's end, once
fixed, stays; a disabled replayer stays disabled.
-/
namespace GoSSE.Proofs.Joe
open GoSSE.Model.Joe

def callFailed : Call → Bool
  | .send _ ok => !ok
  | .flush ok => !ok

/-- did one of the subscription's own live Send/Flush calls fail? -/
def failedLive (st : SubSt) : Bool := (st.calls.drop st.replayed).any callFailed

structure XInv (s : St) : Prop where
  logPc : ∀ p ∈ s.log, (s.pubs p).pc ≠ .idle ∧ (s.pubs p).pc ≠ .start
  logNodup : s.log.Nodup
  cancelled : ∀ i, (s.subs i).pc = .cancelled → (s.subs i).ctxCancelled = true
  endWhy : ∀ i, (s.subs i).endAt ≠ none →
    failedLive (s.subs i) = true ∨ (s.subs i).ctxCancelled = true ∨ s.doneClosed = true

theorem xinv_init {s : St} (h : IsInit s) : XInv s := by
  obtain ⟨_, _, _, _, _, hlog, hsub, _, _⟩ := h
  refine ⟨by simp [hlog], by simp [hlog], ?_, ?_⟩
  · intro i hp; simp [(hsub i).1] at hp
  · intro i he; exact absurd (hsub i).2.2.2.2.2.2 he

theorem xinv_upd {s s' : St} (h : XInv s) (k : SubId) (st : SubSt) (hlog : s'.log = s.log) (hpubs : s'.pubs = s.pubs)
    (hsubs : s'.subs = upd s.subs k st) (hdc : s.doneClosed = true → s'.doneClosed = true)
    (hc : st.pc = .cancelled → st.ctxCancelled = true)
    (he : st.endAt ≠ none → failedLive st = true ∨ st.ctxCancelled = true ∨ s.doneClosed = true) : XInv s' := by
  refine ⟨by rw [hlog, hpubs]; exact h.logPc, by rw [hlog]; exact h.logNodup, fun i hp => ?_, fun i hn => ?_⟩
  · rw [hsubs] at hp ⊢
    by_cases hik : i = k
    · subst hik; rw [upd_same] at hp ⊢; exact hc hp
    · rw [upd_other _ _ _ _ hik] at hp ⊢; exact h.cancelled i hp
  · rw [hsubs] at hn ⊢
    by_cases hik : i = k
    · subst hik; rw [upd_same] at hn ⊢; exact (he hn).imp_right (Or.imp_right hdc)
    · rw [upd_other _ _ _ _ hik] at hn ⊢; exact (h.endWhy i hn).imp_right (Or.imp_right hdc)

theorem xinv_pubs {s : St} (h : XInv s) (p : PubId) (v : PubSt)
    (hv : p ∈ s.log → v.pc ≠ .idle ∧ v.pc ≠ .start) : XInv (setPub s p v) := by
  refine ⟨?_, h.logNodup, h.cancelled, h.endWhy⟩
  intro q hq
  by_cases hqp : q = p
  · subst hqp; simp only [setPub, upd_same]; exact hv hq
  · simp only [setPub, upd_other _ _ _ _ hqp]; exact h.logPc q hq

theorem xinv_congr {s s' : St} (h : XInv s) (hlog : s'.log = s.log) (hpubs : s'.pubs = s.pubs)
    (hsubs : s'.subs = s.subs) (hd : s.doneClosed = true → s'.doneClosed = true) : XInv s' := by
  refine ⟨by rw [hlog, hpubs]; exact h.logPc, by rw [hlog]; exact h.logNodup, by rw [hsubs]; exact h.cancelled, ?_⟩
  intro i he
  rw [hsubs] at he ⊢
  rcases h.endWhy i he with x | x | x
  · exact Or.inl x
  · exact Or.inr (Or.inl x)
  · exact Or.inr (Or.inr (hd x))

theorem failedLive_congr (a b : SubSt) (h1 : a.calls = b.calls) (h2 : a.replayed = b.replayed) :
    failedLive a = failedLive b := by simp [failedLive, h1, h2]

theorem failedLive_append (st : SubSt) (extra : List Call) (hl : st.replayed ≤ st.calls.length) :
    failedLive { st with calls := st.calls ++ extra } = (failedLive st || extra.any callFailed) := by
  simp only [failedLive]
  rw [List.drop_append_of_le_length hl, List.any_append]

@[simp] theorem closedSub_failedLive (st : SubSt) (n : Nat) : failedLive (closedSub st n) = failedLive st := rfl

/-- one visit of the fan-out (`Send`, then `Flush` if `Send` went through) fails unless both succeed -/
theorem failedLive_visit (st : SubSt) (p : PubId) (a b : Bool) (hl : st.replayed ≤ st.calls.length) :
    failedLive { st with calls := st.calls ++ [.send p a] ++ (if a then [.flush b] else []) }
      = (failedLive st || !(a && b)) := by
  rw [List.append_assoc, failedLive_append _ _ hl]
  cases a <;> cases b <;> rfl

theorem step_xinv {c : Cfg} {s s' : St} (hi : Inv s) (hd : DInv c s) (h : XInv s) (l : Label)
    (hs : step c s l = some s') : XInv s' := by
  cases step_trans hi hs with
  | subCall i => exact xinv_upd h i _ rfl rfl rfl id nofun (h.endWhy i)
  | subAccept i rc o hpc =>
    exact xinv_upd h i _ rfl rfl rfl id nofun fun hn => absurd (hd.fresh i (Or.inr hpc)).2.2.2 hn
  | subAcceptErr i rc hpc => exact xinv_upd h i _ rfl rfl rfl id nofun fun hn => absurd (hd.fresh i (Or.inr hpc)).2.2.2 hn
  | subClosedEarly i => exact xinv_upd h i _ rfl rfl rfl id nofun (h.endWhy i)
  | subSeeCancel i hpc hc => exact xinv_upd h i _ rfl rfl rfl id (fun _ => hc) (h.endWhy i)
  | subRecvErr i => exact xinv_upd h i _ rfl rfl rfl id nofun (h.endWhy i)
  | subRecvClosed i => exact xinv_upd h i _ rfl rfl rfl id nofun (h.endWhy i)
  | unsubAcceptMem i hpc =>
    exact xinv_upd h i _ rfl rfl rfl id nofun fun _ => Or.inr (Or.inl (h.cancelled i hpc))
  | unsubAcceptGone i => exact xinv_upd h i _ rfl rfl rfl id nofun (h.endWhy i)
  | cancel i => exact xinv_upd h i _ rfl rfl rfl id (fun _ => rfl) fun _ => Or.inr (Or.inl rfl)
  | pubCall p hpc => exact xinv_pubs h p _ fun hm => absurd hpc (h.logPc p hm).1
  | pubNoTopic p => exact xinv_pubs h p _ fun _ => ⟨nofun, nofun⟩
  | pubAccept p o hpc =>
    have hnp : p ∉ s.log := fun hm => (h.logPc p hm).2 hpc
    refine ⟨fun q hq => ?_, List.nodup_append.mpr ⟨h.logNodup, List.nodup_cons.mpr ⟨List.not_mem_nil, List.nodup_nil⟩, fun a ha b hb e => ?_⟩,
      h.cancelled, h.endWhy⟩
    · by_cases hqp : q = p
      · subst hqp; simp only [upd_same]; exact ⟨nofun, nofun⟩
      · simp only [upd_other _ _ _ _ hqp]
        exact h.logPc q ((List.mem_append.mp hq).resolve_right fun x => hqp (List.mem_singleton.mp x))
    · exact hnp (List.mem_singleton.mp hb ▸ e ▸ ha)
  | pubClosedEarly p => exact xinv_pubs h p _ fun _ => ⟨nofun, nofun⟩
  | pubRecv p => exact xinv_pubs h p _ fun _ => ⟨nofun, nofun⟩
  | fanStepOk i a b p =>
    refine xinv_upd h i _ rfl rfl rfl id (h.cancelled i) fun hn => (h.endWhy i hn).imp_left fun x => ?_
    rw [failedLive_visit _ _ _ _ (hd.lenOK i), x]; rfl
  | fanStepFail i a b p rest _ _ hab =>
    refine xinv_upd h i _ rfl rfl rfl id (h.cancelled i) fun _ => Or.inl ?_
    exact (failedLive_visit (s.subs i) p a b (hd.lenOK i)).trans (by rw [hab, Bool.not_false, Bool.or_true])
  | fanRemove p i rest hj =>
    exact xinv_upd h i _ rfl rfl rfl id (h.cancelled i) fun _ => h.endWhy i (hd.failedEnd p i rest hj)
  | loopExit _ hdc =>
    refine ⟨h.logPc, h.logNodup, fun i hp => ?_, fun i _ => Or.inr (Or.inr hdc)⟩
    by_cases hm : i ∈ s.subscribers
    · simp only [hm, if_true] at hp ⊢; exact h.cancelled i hp
    · simp only [hm, if_false] at hp ⊢; exact h.cancelled i hp
  | shutClose => exact xinv_congr h rfl rfl rfl fun _ => rfl
  | _ => exact xinv_congr h rfl rfl rfl id

theorem reachable_all {c : Cfg} {s : St} (h : Reachable c s) : Inv s ∧ DInv c s ∧ XInv s := by
  induction h with
  | init hi => exact ⟨inv_init hi, dinv_init hi, xinv_init hi⟩
  | step _ hs ih => exact ⟨step_inv ih.1 _ hs, step_dinv ih.1 ih.2.1 _ hs, step_xinv ih.1 ih.2.1 ih.2.2 _ hs⟩

/-- how a transition can change a window's end: not at all, or from "open" to the current length of the log -/
def EndStep (s s' : St) (i : SubId) : Prop :=
  (s'.subs i).endAt = (s.subs i).endAt ∨ ((s.subs i).endAt = none ∧ (s'.subs i).endAt = some s.log.length)

theorem endStep_upd {s s' : St} (i k : SubId) (st : SubSt) (hsubs : s'.subs = upd s.subs k st)
    (h : st.endAt = (s.subs k).endAt ∨ ((s.subs k).endAt = none ∧ st.endAt = some s.log.length)) :
    EndStep s s' i := by
  unfold EndStep; rw [hsubs]
  by_cases hik : i = k
  · subst hik; rw [upd_same]; exact h
  · rw [upd_other _ _ _ _ hik]; exact Or.inl rfl

theorem closedSub_endStep (st : SubSt) (n : Nat) :
    (closedSub st n).endAt = st.endAt ∨ (st.endAt = none ∧ (closedSub st n).endAt = some n) := by
  rw [closedSub_endAt]
  cases st.endAt
  · exact Or.inr ⟨rfl, rfl⟩
  · exact Or.inl rfl

theorem step_window {c : Cfg} {s s' : St} (hi : Inv s) (hd : DInv c s) (l : Label) (hs : step c s l = some s') :
    (s'.log = s.log ∨ ∃ p, s'.log = s.log ++ [p]) ∧ ∀ i, EndStep s s' i := by
  cases step_trans hi hs with
  | subCall k | subAccept k | subAcceptErr k | subClosedEarly k | subSeeCancel k | subRecvErr k | subRecvClosed k
  | unsubAcceptGone k | cancel k | fanStepOk k => exact ⟨Or.inl rfl, fun i => endStep_upd i k _ rfl (Or.inl rfl)⟩
  | unsubAcceptMem k | fanRemove _ k => exact ⟨Or.inl rfl, fun i => endStep_upd i k _ rfl (closedSub_endStep _ _)⟩
  | fanStepFail k a b p rest hj hm =>
    exact ⟨Or.inl rfl, fun i => endStep_upd i k _ rfl (Or.inr ⟨((hd.cur p rest (by rw [hj]; rfl)).2 k hm).2, rfl⟩)⟩
  | loopExit =>
    refine ⟨Or.inl rfl, fun i => ?_⟩
    unfold EndStep
    by_cases hm : i ∈ s.subscribers
    · simp only [hm, if_true]; exact closedSub_endStep _ _
    · simp only [hm, if_false]; exact Or.inl trivial
  | pubAccept p => exact ⟨Or.inr ⟨p, rfl⟩, fun i => Or.inl rfl⟩
  | _ => exact ⟨Or.inl rfl, fun i => Or.inl rfl⟩

/-- a run of the system: `Run c s ls s'` — the labels `ls` lead from `s` to `s'` -/
inductive Run (c : Cfg) : St → List Label → St → Prop
  | nil {s} : Run c s [] s
  | cons {s s1 s' l ls} : step c s l = some s1 → Run c s1 ls s' → Run c s (l :: ls) s'

theorem run_Run {c : Cfg} {s s' : St} {ls : List Label} (h : run c s ls = some s') : Run c s ls s' := by
  induction ls generalizing s with
  | nil => simp only [run, Option.some.injEq] at h; subst h; exact Run.nil
  | cons l ls ih =>
    simp only [run] at h
    split at h
    · rename_i s1 hs; exact Run.cons hs (ih h)
    · simp at h

theorem Run.reachable {c : Cfg} {s s' : St} {ls : List Label} (h : Reachable c s) (r : Run c s ls s') :
    Reachable c s' := by
  induction r with
  | nil => exact h
  | cons hs _ ih => exact ih (Reachable.step h hs)

theorem run_endAt_stable {c : Cfg} {s s' : St} {ls : List Label} (h : Reachable c s) (r : Run c s ls s') (i : SubId)
    (b : Nat) (he : (s.subs i).endAt = some b) : (s'.subs i).endAt = some b := by
  induction r with
  | nil => exact he
  | @cons s0 s1 s2 l ls' hs _ ih =>
    have hall := reachable_all h
    apply ih (Reachable.step h hs)
    rcases (step_window hall.1 hall.2.1 l hs).2 i with e | ⟨n, _⟩
    · rw [e]; exact he
    · rw [he] at n; simp at n

theorem run_window_end {c : Cfg} {s s' : St} {ls : List Label} (h : Reachable c s) (r : Run c s ls s') (i : SubId) :
    s.log.length ≤ s'.log.length ∧
    ((s.subs i).endAt = none → ∀ b, (s'.subs i).endAt = some b → s.log.length ≤ b) := by
  induction r with
  | nil => exact ⟨Nat.le_refl _, fun he b hb => by rw [he] at hb; simp at hb⟩
  | @cons s0 s1 s2 l ls' hs r' ih =>
    have hall := reachable_all h
    have h1 := Reachable.step h hs
    obtain ⟨ih1, ih2⟩ := ih h1
    have hlog : s0.log.length ≤ s1.log.length := by
      rcases (step_window hall.1 hall.2.1 l hs).1 with e | ⟨p, e⟩ <;> rw [e] <;> simp
    refine ⟨Nat.le_trans hlog ih1, fun he b hb => ?_⟩
    rcases (step_window hall.1 hall.2.1 l hs).2 i with e | ⟨_, e⟩
    · rw [he] at e
      exact Nat.le_trans hlog (ih2 e b hb)
    · have := run_endAt_stable h1 r' i _ e
      rw [this] at hb
      simp only [Option.some.injEq] at hb
      omega

/-- Stated of any state, reachable or not (as C17 needs it): there is no `Inv` to go through `step_trans` with. -/
theorem step_replayer {c : Cfg} {s s' : St} (l : Label) (hs : step c s l = some s') (hd : s.replayer = false) :
    s'.replayer = false := by
  cases l with
  | pubAccept p o =>
    obtain ⟨_, hs⟩ := ite_eq_some hs
    obtain ⟨_, hs⟩ := ite_none_eq_some hs
    cases hs; exact (congrArg (· && o != .panic) hd : _)
  | subAccept k rc o =>
    obtain ⟨_, hs⟩ := ite_eq_some hs
    rw [hd] at hs
    obtain ⟨_, hs⟩ := ite_eq_some hs
    cases hs; exact hd
  | subRecv k =>
    obtain ⟨_, hs⟩ := ite_eq_some hs
    split at hs
    · cases hs; exact hd
    · obtain ⟨_, hs⟩ := ite_eq_some hs
      cases hs; exact hd
  | unsubAccept k =>
    obtain ⟨_, hs⟩ := ite_eq_some hs
    cases hs
    obtain ⟨_, _, _, e⟩ := removeSubscriber_frame s k
    rw [e]; exact hd
  | fanStep k a b =>
    rw [step_fanStep] at hs
    split at hs
    · obtain ⟨_, hs⟩ := ite_eq_some hs
      rcases ite_eq_some_or hs with ⟨_, hs⟩ | ⟨_, hs⟩
      · cases hs; exact hd
      · cases hs
        obtain ⟨_, _, e⟩ := sendChan_frame (setSub s k _) k (.own k)
        rw [e, apply_ite St.replayer]
        exact (ite_self _).trans hd
    · cases hs
  | fanRemove =>
    rw [step_fanRemove] at hs
    split at hs
    · cases hs
      obtain ⟨_, _, _, e⟩ := removeSubscriber_frame s _
      rw [e, apply_ite St.replayer]
      exact (ite_self _).trans hd
    · cases hs
  | fanDone =>
    rw [step_fanDone] at hs
    split at hs
    · cases hs; exact hd
    · cases hs
  | loopExit =>
    obtain ⟨_, hs⟩ := ite_eq_some hs
    cases hs
    obtain ⟨_, _, _, e⟩ := closeAll_frame s.subscribers s
    rw [e, apply_ite St.replayer]
    exact (ite_self _).trans hd
  | pubRecv p =>
    rw [step_pubRecv] at hs
    split at hs
    · cases hs; exact hd
    · cases hs
  | cancel k | shutCancel k => obtain ⟨_, hs⟩ := ite_none_eq_some hs; cases hs; exact hd
  | subCall k | subClosedEarly k | subSeeCancel k | pubCall p | pubNoTopic p | pubClosedEarly p | shutCall k | shutClose k
  | shutRecovered k | shutSeeClosed k | shutCtx k => obtain ⟨_, hs⟩ := ite_eq_some hs; cases hs; exact hd

end GoSSE.Proofs.Joe
