import GoSSE.Proofs.MessageRoundTrip
import GoSSE.Proofs.MessageFields
/-!
Helper lemmas for C19: the ownership invariant of the slice/heap model and the simulation of the
value-level specification, for every growth policy `extra`.
-/
namespace GoSSE.Proofs
open GoSSE GoSSE.Spec GoSSE.Model

def SliceOK (h : Heap) (s : Slice) : Prop := s.len ≤ s.cap ∧ s.cap ≤ (h.array s.arr).length

/-- The invariant: every slice lies within its array, and among the messages sharing an array
at most one has spare capacity (`len < cap`); every other one is full (`cap = len`) and no
longer than that one. -/
structure HInv (h : Heap) (fam : List HMsg) : Prop where
  ok : ∀ (i : Nat) (m : HMsg), fam[i]? = some m → SliceOK h m.sl
  own : ∀ (i j : Nat) (mi mj : HMsg), fam[i]? = some mi → fam[j]? = some mj → i ≠ j → mi.sl.arr = mj.sl.arr →
    mi.sl.len < mi.sl.cap → mj.sl.cap = mj.sl.len ∧ mj.sl.len ≤ mi.sl.len

theorem array_set (h : Heap) (a b : Nat) (v : List Chunk) :
    Heap.array (h.set a v) b = if a = b ∧ a < h.length then v else Heap.array h b := by
  simp only [Heap.array, List.getElem?_set]
  by_cases hab : a = b
  · subst hab; by_cases hl : a < h.length <;> simp [hl]
  · simp [hab]

theorem array_append (h : Heap) (v : List Chunk) (b : Nat) :
    Heap.array (h ++ [v]) b = if b = h.length then v else Heap.array h b := by
  simp only [Heap.array]
  rcases Nat.lt_trichotomy b h.length with hlt | heq | hgt
  · rw [List.getElem?_append_left hlt, if_neg (by omega)]
  · subst heq; simp
  · rw [List.getElem?_eq_none (by simp; omega), List.getElem?_eq_none (by omega), if_neg (by omega)]

theorem array_out_of_range (h : Heap) (b : Nat) (hb : h.length ≤ b) : Heap.array h b = [] := by
  simp [Heap.array, List.getElem?_eq_none hb]

theorem sliceOK_arr_lt (h : Heap) (s : Slice) (hs : SliceOK h s) (hc : 0 < s.cap) : s.arr < h.length := by
  rcases Nat.lt_or_ge s.arr h.length with hlt | hge
  · exact hlt
  · have := array_out_of_range h s.arr hge
    unfold SliceOK at hs; rw [this] at hs; simp at hs; omega

theorem sliceOK_mono {h h' : Heap} {s : Slice} (hl : (h.array s.arr).length ≤ (h'.array s.arr).length)
    (hs : SliceOK h s) : SliceOK h' s :=
  ⟨hs.1, Nat.le_trans hs.2 hl⟩

theorem getElem?_set_self' {α : Type} (l : List α) (i : Nat) (a x : α) (h : l[i]? = some x) : (l.set i a)[i]? = some a := by
  rw [List.getElem?_set_self (List.getElem?_eq_some_iff.1 h).1]

theorem getElem?_set_cases {α : Type} {l : List α} {i j : Nat} {a x y : α} (hi : l[i]? = some x)
    (hj : (l.set i a)[j]? = some y) : (j = i ∧ y = a) ∨ (j ≠ i ∧ l[j]? = some y) := by
  by_cases hij : i = j
  · subst hij
    rw [getElem?_set_self' l i a x hi] at hj
    exact Or.inl ⟨rfl, (Option.some.inj hj).symm⟩
  · rw [List.getElem?_set_ne hij] at hj
    exact Or.inr ⟨Ne.symm hij, hj⟩

theorem getElem?_concat_cases {α : Type} {l : List α} {c y : α} {j : Nat} (hj : (l ++ [c])[j]? = some y) :
    l[j]? = some y ∨ (j = l.length ∧ y = c) := by
  rcases Nat.lt_trichotomy j l.length with hlt | rfl | hgt
  · exact .inl (List.getElem?_append_left hlt ▸ hj)
  · rw [List.getElem?_concat_length] at hj
    exact .inr ⟨rfl, (Option.some.inj hj).symm⟩
  · rw [List.getElem?_eq_none (by rw [List.length_append]; exact hgt)] at hj
    cases hj

theorem hinv_set {h h' : Heap} {fam : List HMsg} {i : Nat} {m m' : HMsg} (hinv : HInv h fam) (hi : fam[i]? = some m)
    (hok : SliceOK h' m'.sl) (hmono : ∀ (j : Nat) (mj : HMsg), j ≠ i → fam[j]? = some mj → SliceOK h' mj.sl)
    (hown : ∀ (j : Nat) (mj : HMsg), j ≠ i → fam[j]? = some mj → mj.sl.arr = m'.sl.arr →
      (m'.sl.len < m'.sl.cap → mj.sl.cap = mj.sl.len ∧ mj.sl.len ≤ m'.sl.len) ∧
      (mj.sl.len < mj.sl.cap → m'.sl.cap = m'.sl.len ∧ m'.sl.len ≤ mj.sl.len)) :
    HInv h' (fam.set i m') := by
  refine ⟨?_, ?_⟩
  · intro j mj hj
    rcases getElem?_set_cases hi hj with ⟨_, rfl⟩ | ⟨hji, hj0⟩
    · exact hok
    · exact hmono j mj hji hj0
  · intro j k mj mk hj hk hjk harr hcap
    rcases getElem?_set_cases hi hj with ⟨rfl, rfl⟩ | ⟨hji, hj0⟩
    · rcases getElem?_set_cases hi hk with ⟨rfl, _⟩ | ⟨hki, hk0⟩
      · exact absurd rfl hjk
      · exact (hown k mk hki hk0 harr.symm).1 hcap
    · rcases getElem?_set_cases hi hk with ⟨_, rfl⟩ | ⟨_, hk0⟩
      · exact (hown j mj hji hj0 harr).2 hcap
      · exact hinv.own j k mj mk hj0 hk0 hjk harr hcap

theorem append_one (extra : Nat → Nat) (h : Heap) (fam : List HMsg) (i : Nat) (m : HMsg) (x : Chunk)
    (hinv : HInv h fam) (hi : fam[i]? = some m) :
    HInv (happend extra h m.sl x).1 (fam.set i { m with sl := (happend extra h m.sl x).2 }) ∧
    (view (happend extra h m.sl x).1 { m with sl := (happend extra h m.sl x).2 }).chunks = (view h m).chunks ++ [x] ∧
    (∀ (j : Nat) (mj : HMsg), j ≠ i → fam[j]? = some mj → view (happend extra h m.sl x).1 mj = view h mj) := by
  have hok : m.sl.len ≤ m.sl.cap ∧ m.sl.cap ≤ (h.array m.sl.arr).length := hinv.ok i m hi
  unfold happend
  by_cases hc : m.sl.len < m.sl.cap
  · -- in place: the arrays keep their lengths, only cell `len` of `m`'s array changes
    simp only [hc, if_true]
    have ha : m.sl.arr < h.length := sliceOK_arr_lt h m.sl hok (by omega)
    have hlen : m.sl.len < (h.array m.sl.arr).length := by omega
    have harr : ∀ b, Heap.array (h.set m.sl.arr ((h.array m.sl.arr).set m.sl.len x)) b =
        if m.sl.arr = b then (h.array b).set m.sl.len x else h.array b := by
      intro b
      rw [array_set]
      by_cases hab : m.sl.arr = b
      · subst hab; rw [if_pos ⟨rfl, ha⟩, if_pos rfl]
      · rw [if_neg (fun h' => hab h'.1), if_neg hab]
    have hl : ∀ b, (Heap.array (h.set m.sl.arr ((h.array m.sl.arr).set m.sl.len x)) b).length = (h.array b).length := by
      intro b; rw [harr]; split <;> simp
    refine ⟨hinv_set hinv hi ?_ ?_ ?_, ?_, ?_⟩
    · exact ⟨by show m.sl.len + 1 ≤ m.sl.cap; omega, by rw [hl]; exact hok.2⟩
    · intro j mj _ hj
      exact sliceOK_mono (Nat.le_of_eq (hl _).symm) (hinv.ok j mj hj)
    · intro j mj hji hj hja
      have := hinv.own i j m mj hi hj (Ne.symm hji) hja.symm hc
      exact ⟨fun _ => ⟨this.1, by show mj.sl.len ≤ m.sl.len + 1; omega⟩, fun h' => by omega⟩
    · simp only [view]
      rw [harr, if_pos rfl]
      rw [List.take_succ_eq_append_getElem (by rw [List.length_set]; exact hlen), List.getElem_set_self,
        List.take_set_of_le (Nat.le_refl _)]
    · intro j mj hji hj
      simp only [view]
      rw [harr]
      split
      · rename_i hab
        have := hinv.own i j m mj hi hj (Ne.symm hji) hab hc
        rw [← hab, List.take_set_of_le this.2]
      · rfl
  · -- reallocation, with any capacity ≥ len + 1: no slice of the family points at the fresh array
    simp only [hc, if_false]
    have htl : ((h.array m.sl.arr).take m.sl.len).length = m.sl.len := by rw [List.length_take]; omega
    have hfree : ∀ (j : Nat) (mj : HMsg), fam[j]? = some mj → mj.sl.arr = h.length → mj.sl.cap = 0 ∧ mj.sl.len = 0 := by
      intro j mj hj ha
      have : mj.sl.len ≤ mj.sl.cap ∧ mj.sl.cap ≤ (h.array mj.sl.arr).length := hinv.ok j mj hj
      rw [ha, array_out_of_range h _ (Nat.le_refl _)] at this
      simp at this; omega
    refine ⟨hinv_set hinv hi ?_ ?_ ?_, ?_, ?_⟩
    · show _ ∧ _
      simp only [array_append, if_true, List.length_append, htl, List.length_cons, List.length_nil, List.length_replicate]
      omega
    · intro j mj _ hj
      refine sliceOK_mono ?_ (hinv.ok j mj hj)
      rw [array_append]
      split
      · rename_i hb; rw [hb, array_out_of_range h _ (Nat.le_refl _)]; exact Nat.zero_le _
      · exact Nat.le_refl _
    · intro j mj _ hj hja
      have := hfree j mj hj hja
      exact ⟨fun _ => by omega, fun _ => by omega⟩
    · simp only [view, array_append, if_true]
      have hl : (List.take m.sl.len (h.array m.sl.arr) ++ [x]).length = m.sl.len + 1 := by simp [htl]
      rw [List.take_append_of_le_length (by omega), List.take_of_length_le (by omega)]
    · intro j mj hji hj
      simp only [view]
      rw [array_append]
      split
      · rename_i hb
        rw [(hfree j mj hj hb).2]; rfl
      · rfl

theorem append_all (extra : Nat → Nat) (xs : List Chunk) (h : Heap) (fam : List HMsg) (i : Nat) (m : HMsg)
    (hinv : HInv h fam) (hi : fam[i]? = some m) :
    HInv (happendAll extra h m.sl xs).1 (fam.set i { m with sl := (happendAll extra h m.sl xs).2 }) ∧
    (view (happendAll extra h m.sl xs).1 { m with sl := (happendAll extra h m.sl xs).2 }).chunks = (view h m).chunks ++ xs ∧
    (∀ (j : Nat) (mj : HMsg), j ≠ i → fam[j]? = some mj → view (happendAll extra h m.sl xs).1 mj = view h mj) := by
  induction xs generalizing h fam m with
  | nil =>
    obtain ⟨hlt, rfl⟩ := List.getElem?_eq_some_iff.1 hi
    simp only [happendAll, List.foldl_nil, List.set_getElem_self hlt, List.append_nil]
    exact ⟨hinv, trivial, fun _ _ _ _ => trivial⟩
  | cons x xs ih =>
    obtain ⟨h1, h2, h3⟩ := append_one extra h fam i m x hinv hi
    have hi1 := getElem?_set_self' fam i { m with sl := (happend extra h m.sl x).2 } m hi
    obtain ⟨k1, k2, k3⟩ := ih (happend extra h m.sl x).1 (fam.set i { m with sl := (happend extra h m.sl x).2 })
      { m with sl := (happend extra h m.sl x).2 } h1 hi1
    have hfold : happendAll extra h m.sl (x :: xs) =
        happendAll extra (happend extra h m.sl x).1 (happend extra h m.sl x).2 xs := by
      simp [happendAll]
    rw [hfold]
    refine ⟨?_, ?_, ?_⟩
    · simpa [List.set_set] using k1
    · rw [show (view h m).chunks ++ x :: xs = ((view h m).chunks ++ [x]) ++ xs by simp, ← h2]
      exact k2
    · intro j mj hji hj
      have hj1 : (fam.set i { m with sl := (happend extra h m.sl x).2 })[j]? = some mj := by
        rw [List.getElem?_set_ne (Ne.symm hji)]; exact hj
      rw [k3 j mj hji hj1, h3 j mj hji hj]

theorem hinv_set_fields (h : Heap) (fam : List HMsg) (i : Nat) (m m' : HMsg) (hinv : HInv h fam)
    (hi : fam[i]? = some m) (hsl : m'.sl = m.sl) : HInv h (fam.set i m') := by
  refine hinv_set hinv hi (hsl ▸ hinv.ok i m hi) (fun j mj _ hj => hinv.ok j mj hj) ?_
  intro j mj hji hj hja
  rw [hsl] at hja ⊢
  exact ⟨hinv.own i j m mj hi hj (Ne.symm hji) hja.symm, hinv.own j i mj m hj hi hji hja⟩

theorem hinv_set_nil (h : Heap) (fam : List HMsg) (i : Nat) (m m' : HMsg) (hinv : HInv h fam)
    (hi : fam[i]? = some m) (hsl : m'.sl = {}) : HInv h (fam.set i m') := by
  refine hinv_set hinv hi ?_ (fun j mj _ hj => hinv.ok j mj hj) ?_
  · rw [hsl]; exact ⟨Nat.le_refl _, Nat.zero_le _⟩
  · intro j mj _ _ _
    rw [hsl]
    exact ⟨fun hcap => absurd hcap (Nat.lt_irrefl 0), fun _ => ⟨rfl, Nat.zero_le _⟩⟩

/-- a clone (`[:len:len]`) of member `i` joins the family -/
theorem hinv_push_clone (h : Heap) (fam : List HMsg) (i : Nat) (m c : HMsg) (hinv : HInv h fam)
    (hi : fam[i]? = some m) (hc : c.sl = { arr := m.sl.arr, len := m.sl.len, cap := m.sl.len }) :
    HInv h (fam ++ [c]) := by
  have hokm : m.sl.len ≤ m.sl.cap ∧ m.sl.cap ≤ (h.array m.sl.arr).length := hinv.ok i m hi
  refine ⟨?_, ?_⟩
  · intro j mj hj
    rcases getElem?_concat_cases hj with h0 | ⟨_, rfl⟩
    · exact hinv.ok j mj h0
    · unfold SliceOK; rw [hc]; exact ⟨Nat.le_refl _, Nat.le_trans hokm.1 hokm.2⟩
  · intro j k mj mk hj hk hjk harr hcap
    rcases getElem?_concat_cases hj with hj0 | ⟨_, rfl⟩
    · rcases getElem?_concat_cases hk with hk0 | ⟨_, rfl⟩
      · exact hinv.own j k mj mk hj0 hk0 hjk harr hcap
      · -- `j` has spare capacity on the clone's array
        rw [hc] at harr ⊢
        by_cases hji : j = i
        · subst hji; rw [hi] at hj0; cases hj0; exact ⟨rfl, Nat.le_refl _⟩
        · exact ⟨rfl, (hinv.own j i mj m hj0 hi hji harr hcap).2⟩
    · rw [hc] at hcap; exact absurd hcap (Nat.lt_irrefl _)

theorem view_clone (h : Heap) (m : HMsg) : view h m.clone = view h m := rfl

/-- the heap-level family shows exactly the value-level family -/
structure Sim (st : FamState) (ps : PureState) : Prop where
  fam : st.views = ps.fam
  ctr : st.ctr = ps.ctr
  puts : st.puts = ps.puts

theorem sim_length {st : FamState} {ps : PureState} (hs : Sim st ps) : st.fam.length = ps.fam.length := by
  rw [← hs.fam, FamState.views, List.length_map]

theorem sim_get {st : FamState} {ps : PureState} (hs : Sim st ps) (i : Nat) : ps.fam[i]? = (st.fam[i]?).map (view st.heap) := by
  rw [← hs.fam, FamState.views, List.getElem?_map]

theorem pure_modify_none {st : FamState} {ps : PureState} (hs : Sim st ps) {i : Nat} (hm : st.fam[i]? = none) (g : Message → Message) :
    ps.modify i g = ps := by
  simp only [PureState.modify, sim_get hs, hm, Option.map_none]

theorem pure_modify_some {st : FamState} {ps : PureState} (hs : Sim st ps) {i : Nat} {m : HMsg} (hm : st.fam[i]? = some m) (g : Message → Message) :
    ps.modify i g = { ps with fam := ps.fam.set i (g (view st.heap m)) } := by
  simp only [PureState.modify, sim_get hs, hm, Option.map_some]

theorem map_view_set {h h' : Heap} {fam : List HMsg} {i : Nat} {m' : HMsg}
    (hframe : ∀ (j : Nat) (mj : HMsg), j ≠ i → fam[j]? = some mj → view h' mj = view h mj) :
    (fam.set i m').map (view h') = (fam.map (view h)).set i (view h' m') := by
  rw [List.map_set]
  apply List.ext_getElem?
  intro j
  by_cases hij : i = j
  · subst hij; simp [List.getElem?_set]
  · rw [List.getElem?_set_ne hij, List.getElem?_set_ne hij, List.getElem?_map, List.getElem?_map]
    cases hj : fam[j]? with
    | none => rfl
    | some mj => exact congrArg some (hframe j mj (Ne.symm hij) hj)

theorem sim_set {st : FamState} {ps : PureState} (hs : Sim st ps) {i : Nat} {m : HMsg} (hm : st.fam[i]? = some m) (h' : Heap) (m' : HMsg)
    (g : Message → Message)
    (hframe : ∀ (j : Nat) (mj : HMsg), j ≠ i → st.fam[j]? = some mj → view h' mj = view st.heap mj)
    (hv : view h' m' = g (view st.heap m)) :
    Sim { st with heap := h', fam := st.fam.set i m' } (ps.modify i g) := by
  rw [pure_modify_some hs hm]
  exact ⟨by rw [← hs.fam, ← hv]; exact map_view_set hframe, hs.ctr, hs.puts⟩

theorem textChunks_eq (ic : Bool) (strs : List Bytes) :
    textChunks ic strs = (strs.flatMap linesOf).map (fun l => ⟨l, ic⟩) := by
  unfold textChunks
  induction strs with
  | nil => rfl
  | cons s ss ih =>
    simp only [List.flatMap_cons, List.map_append, ih]
    rw [appendLoop_eq ic s.length s [] (Nat.le_refl _)]; simp

theorem message_ext (a b : Message) (h1 : a.chunks = b.chunks) (h2 : a.id = b.id) (h3 : a.typ = b.typ) (h4 : a.retry = b.retry) : a = b := by
  cases a; cases b; simp_all

theorem mustID_formatUint (n : Nat) : mustID (formatUint n) = some { value := formatUint n, set := true } := by
  simp [mustID, newID_single _ (formatUint_nlFree n)]

theorem modify_sim {st : FamState} {ps : PureState} (i : Nat) (f : HMsg → HMsg) (g : Message → Message) (hf : ∀ m, (f m).sl = m.sl)
    (hg : ∀ h m, view h (f m) = g (view h m)) (hinv : HInv st.heap st.fam) (hs : Sim st ps) :
    HInv (st.modify i f).heap (st.modify i f).fam ∧ Sim (st.modify i f) (ps.modify i g) := by
  cases hm : st.fam[i]? with
  | none =>
    rw [pure_modify_none hs hm]
    simp only [FamState.modify, hm]
    exact ⟨hinv, hs⟩
  | some m =>
    simp only [FamState.modify, hm]
    exact ⟨hinv_set_fields _ _ i m (f m) hinv hm (hf m), sim_set hs hm st.heap (f m) g (fun _ _ _ _ => rfl) (hg _ _)⟩

theorem appendText_sim (extra : Nat → Nat) {st : FamState} {ps : PureState} (i : Nat) (ic : Bool) (s : List Bytes) (hinv : HInv st.heap st.fam) (hs : Sim st ps) :
    HInv (st.appendText extra i ic s).heap (st.appendText extra i ic s).fam ∧
      Sim (st.appendText extra i ic s) (ps.modify i fun m => m.appendText ic s) := by
  cases hm : st.fam[i]? with
  | none =>
    rw [pure_modify_none hs hm]
    simp only [FamState.appendText, hm]
    exact ⟨hinv, hs⟩
  | some m =>
    simp only [FamState.appendText, hm]
    obtain ⟨a1, a2, a3⟩ := append_all extra (textChunks ic s) st.heap st.fam i m hinv hm
    refine ⟨a1, sim_set hs hm _ _ _ a3 ?_⟩
    have hf := appendText_fields (view st.heap m) ic s
    exact message_ext _ _ (by rw [a2, appendText_chunks, textChunks_eq]) hf.1.symm hf.2.1.symm hf.2.2.symm

/-- `UnmarshalText`: first the reset, then the appends -/
theorem unmarshal_sim (extra : Nat → Nat) {st : FamState} {ps : PureState} (i : Nat) (p : Bytes) (hinv : HInv st.heap st.fam) (hs : Sim st ps) :
    HInv (st.unmarshal extra i p).heap (st.unmarshal extra i p).fam ∧
      Sim (st.unmarshal extra i p) (ps.modify i fun _ => (Message.unmarshalText p).1) := by
  cases hm : st.fam[i]? with
  | none =>
    rw [pure_modify_none hs hm]
    simp only [FamState.unmarshal, hm]
    exact ⟨hinv, hs⟩
  | some m =>
    simp only [FamState.unmarshal, hm]
    generalize (Message.unmarshalText p).1 = r
    have h0 := hinv_set_nil st.heap st.fam i m { sl := {}, id := r.id, typ := r.typ, retry := r.retry } hinv hm rfl
    obtain ⟨a1, a2, a3⟩ := append_all extra r.chunks st.heap _ i _ h0 (getElem?_set_self' st.fam i _ m hm)
    rw [List.set_set] at a1
    refine ⟨a1, sim_set hs hm _ _ _ (fun j mj hji hj => a3 j mj hji ?_) ?_⟩
    · rw [List.getElem?_set_ne (Ne.symm hji)]; exact hj
    · exact message_ext _ _ (by rw [a2]; simp [view, Heap.array]) rfl rfl rfl

theorem push_sim {st : FamState} {ps : PureState} {i : Nat} {m : HMsg} (c : HMsg) (hm : st.fam[i]? = some m)
    (hc : c.sl = { arr := m.sl.arr, len := m.sl.len, cap := m.sl.len }) (hinv : HInv st.heap st.fam) (hs : Sim st ps) :
    HInv st.heap (st.fam ++ [c]) ∧ (st.fam ++ [c]).map (view st.heap) = ps.fam ++ [view st.heap c] :=
  ⟨hinv_push_clone st.heap st.fam i m c hinv hm hc, by rw [List.map_append, ← hs.fam]; rfl⟩

theorem step_sim (extra : Nat → Nat) (st : FamState) (ps : PureState) (op : FOp)
    (hinv : HInv st.heap st.fam) (hs : Sim st ps) :
    HInv (st.step extra op).heap (st.step extra op).fam ∧ Sim (st.step extra op) (ps.step op) := by
  cases op with
  | appendData i s | appendComment i s => exact appendText_sim extra i _ s hinv hs
  | setID i v | setType i v | setRetry i v => exact modify_sim i _ _ (fun _ => rfl) (fun _ _ => rfl) hinv hs
  | unmarshal i p => exact unmarshal_sim extra i p hinv hs
  | clone i =>
    simp only [FamState.step, PureState.step, sim_get hs]
    cases hm : st.fam[i]? with
    | none => exact ⟨hinv, hs⟩
    | some m =>
      obtain ⟨p1, p2⟩ := push_sim m.clone hm rfl hinv hs
      exact ⟨p1, p2, hs.ctr, hs.puts⟩
  | put i rep =>
    simp only [FamState.step, PureState.step, FamState.ensureID, sim_get hs]
    cases hm : st.fam[i]? with
    | none => exact ⟨hinv, hs⟩
    | some m =>
      have hidset : (view st.heap m).id.set = m.id.set := rfl
      simp only [Option.map_some, hidset]
      -- every outcome but a fresh ID leaves the family alone and logs one entry
      have hlog : ∀ x, HInv st.heap st.fam ∧ Sim { st with puts := st.puts ++ [x] } { ps with puts := ps.puts ++ [x] } :=
        fun x => ⟨hinv, hs.fam, hs.ctr, by rw [hs.puts]⟩
      cases ha : autoIDs rep with
      | false =>
        cases hset : m.id.set with
        | false => exact hlog .errNoID
        | true => exact hlog (.same i)
      | true =>
        cases hset : m.id.set with
        | true => exact hlog .errHasID
        | false =>
          simp only [Bool.not_true, Bool.false_eq_true, if_false, mustID_formatUint]
          obtain ⟨p1, p2⟩ := push_sim { m.clone with id := { value := formatUint (st.ctr rep), set := true } } hm rfl hinv hs
          exact ⟨p1, by rw [← hs.ctr]; exact p2, by rw [hs.ctr], by rw [hs.puts, sim_length hs]⟩

theorem hinv_init : HInv ({} : FamState).heap ({} : FamState).fam := by
  have only : ∀ (i : Nat) (m : HMsg), ({} : FamState).fam[i]? = some m → m = {} := by
    intro i m hi
    cases i with
    | zero => exact (Option.some.inj hi).symm
    | succ i => cases hi
  refine ⟨fun i m hi => ?_, fun i j mi mj hi hj hij _ hcap => ?_⟩
  · rw [only i m hi]; exact ⟨Nat.le_refl _, Nat.zero_le _⟩
  · rw [only i mi hi] at hcap; exact absurd hcap (Nat.lt_irrefl _)

theorem sim_init : Sim {} {} := ⟨rfl, rfl, rfl⟩

theorem run_sim (extra : Nat → Nat) (ops : List FOp) (st : FamState) (ps : PureState)
    (hinv : HInv st.heap st.fam) (hs : Sim st ps) :
    HInv (st.run extra ops).heap (st.run extra ops).fam ∧ Sim (st.run extra ops) (ps.run ops) := by
  induction ops generalizing st ps with
  | nil => exact ⟨hinv, hs⟩
  | cons op ops ih =>
    obtain ⟨h1, h2⟩ := step_sim extra st ps op hinv hs
    exact ih _ _ h1 h2

theorem pure_run_snoc (ps : PureState) (ops : List FOp) (op : FOp) : ps.run (ops ++ [op]) = (ps.run ops).step op := by
  simp [PureState.run, List.foldl_append]

theorem pure_puts (ps : PureState) (i rep k : Nat) (m : Message) (ha : autoIDs rep = true)
    (hi : ps.fam[i]? = some m) (hid : m.id.set = false) :
    (ps.run (List.replicate k (.put i rep))).fam =
      ps.fam ++ (List.range k).map (fun n => { m with id := { value := formatUint (ps.ctr rep + n), set := true } }) ∧
    (ps.run (List.replicate k (.put i rep))).ctr rep = ps.ctr rep + k := by
  induction k with
  | zero => simp [PureState.run]
  | succ k ih =>
    rw [List.replicate_succ', pure_run_snoc]
    generalize hq : ps.run (List.replicate k (.put i rep)) = q at ih
    have hlt : i < ps.fam.length := (List.getElem?_eq_some_iff.1 hi).1
    have hqi : q.fam[i]? = some m := by rw [ih.1, List.getElem?_append_left hlt]; exact hi
    simp only [PureState.step, hqi, ha, Bool.not_true, Bool.false_eq_true, if_false, hid]
    refine ⟨?_, ?_⟩
    · rw [ih.1, ih.2, List.range_succ, List.map_append, List.append_assoc]; rfl
    · simp [ih.2]; omega

end GoSSE.Proofs
