import GoSSE.Gen.Session
import GoSSE.Model.Session
import GoSSE.Proofs.GenEquivWrite
import GoSSE.Proofs.MessageWrite
import GoSSE.Proofs.MessageBuild
import GoSSE.Proofs.SessionEncode
/-!
# `Session.doUpgrade / Send / Flush` as translated from session.go = the model of `Model/Session.lean`

The translated `Session σ` holds *any* response writer (`GoRT.ResW σ`: a state, `Write`, `Flush`, `Header()[k] = v`).
The hand-written model talks to one family of writers: the recording writer with a fault schedule (`wWrite`, `wFlush`:
call number `c` fails when `sched c` says so, every call is logged as an `Ev`). `resOf` is that writer as a `ResW` whose
state is (calls so far, log so far); over it the translated methods return the model's error and leave the model's
session, call counter and log. `Send` writes with the translated `Message.WriteTo`, so the session model is stated
over the message model's own list of `Write` calls (`sendW` over `Message.writes`).
-/
namespace GoSSE.GenEquiv
open GoSSE GoSSE.GoRT GoSSE.Model GoSSE.Spec GoSSE.Proofs
open GoSSE.Model.Session (Sched Res Ev FlushKind wWrite wFlush)

/-- the recording writer's state: writer calls so far, events logged so far -/
abbrev SSt := Nat × List Ev

/-- an error of the recording writer (the number of the failing call) as the translated code sees it -/
def errS (k : Nat) : String := toString k

/-- the recording writer as an `io.Writer` of the message model -/
def recW (sched : Sched) (lvl : Nat) : Model.Writer SSt String :=
  ⟨fun st p => ((wWrite sched lvl st.1 p).1.body.length, (wWrite sched lvl st.1 p).2.map errS, (st.1 + 1, st.2 ++ [(wWrite sched lvl st.1 p).1]))⟩

/-- the recording writer as a response writer of the translated code -/
def resOf (sched : Sched) (r : Res) (st : SSt) : ResW SSt :=
  { st := st,
    write := fun s p => ((((recW sched r.lvl).write s p).1 : Int), ((recW sched r.lvl).write s p).2.1, ((recW sched r.lvl).write s p).2.2),
    flush := fun s => ((wFlush sched r.lvl r.kind s.1).2.map errS, (s.1 + 1, s.2 ++ [(wFlush sched r.lvl r.kind s.1).1])),
    setHeader := fun s k v => (s.1, s.2 ++ [Ev.headerSet r.lvl k (v.headD [])]) }

theorem resWriter_resOf (sched : Sched) (r : Res) (st : SSt) : resWriter (resOf sched r st) = toGenW (recW sched r.lvl) st := rfl

theorem resOf_with (sched : Sched) (r : Res) (st st' : SSt) : ({ resOf sched r st with st := st' } : ResW SSt) = resOf sched r st' := rfl

/-- a model session over the recording writer, as the translated struct -/
def toGenS (sched : Sched) (s : Session.Session) (st : SSt) (lid : Gen.EventID) : Gen.Session SSt :=
  { Res := resOf sched s.res st, Req := none, LastEventID := lid, didUpgrade := s.didUpgrade }

theorem recW_obeys (sched : Sched) (lvl : Nat) : (recW sched lvl).Obeys := by
  intro st p
  show (wWrite sched lvl st.1 p).1.body.length ≤ p.length ∧
    ((wWrite sched lvl st.1 p).1.body.length < p.length → (wWrite sched lvl st.1 p).2.map errS ≠ none)
  unfold wWrite
  cases sched st.1 with
  | none => exact ⟨Nat.le_refl _, fun h => absurd h (Nat.lt_irrefl _)⟩
  | some n => exact ⟨List.length_take_le' n p, fun _ => nofun⟩

theorem doUpgrade_eq (fuel : Nat) (sched : Sched) (s : Session.Session) (c : Nat) (log : List Ev) (lid : Gen.EventID) :
    Gen.Session_doUpgrade fuel (toGenS sched s (c, log) lid) =
      .ok ((Session.doUpgrade sched s c).err.map errS,
           toGenS sched (Session.doUpgrade sched s c).s ((Session.doUpgrade sched s c).calls, log ++ (Session.doUpgrade sched s c).evs) lid) := by
  obtain ⟨res, du⟩ := s
  unfold Gen.Session_doUpgrade Session.doUpgrade
  cases du
  · -- the header is set, then the writer flushed as call `c`; what that call returns decides both sides
    dsimp only
    show (if ((wFlush sched res.lvl res.kind c).2.map errS != none) = true
      then pure ((wFlush sched res.lvl res.kind c).2.map errS, _) else _) = _
    have e := List.append_assoc log [Session.upgradeHeader res] [(wFlush sched res.lvl res.kind c).1]
    cases (wFlush sched res.lvl res.kind c).2 with
    | none => exact congrArg (fun l => Except.ok (none, toGenS sched ⟨res, true⟩ (c + 1, l) lid)) e
    | some k => exact congrArg (fun l => Except.ok (some (errS k), toGenS sched ⟨res, false⟩ (c + 1, l) lid)) e
  · exact congrArg (fun l => Except.ok (none, toGenS sched ⟨res, true⟩ (c, l) lid)) (List.append_nil log).symm

theorem recW_writeAll (sched : Sched) (lvl : Nat) (ws : List Bytes) (r : WR SSt String) (c : Nat) (log : List Ev)
    (he : r.err = none) (hst : r.st = (c, log)) :
    (Spec.writeAll (recW sched lvl) r ws).st = ((Session.writeAll sched lvl c ws).calls, log ++ (Session.writeAll sched lvl c ws).evs) ∧
    (Spec.writeAll (recW sched lvl) r ws).err = (Session.writeAll sched lvl c ws).err.map errS := by
  induction ws generalizing r c log with
  | nil => rw [Spec.writeAll, hst, he]; exact ⟨congrArg _ (List.append_nil log).symm, rfl⟩
  | cons p ps ih =>
    have hst' : (r.write (recW sched lvl) p).st = (c + 1, log ++ [(wWrite sched lvl c p).1]) := by rw [WR.write, hst]; rfl
    have he' : (r.write (recW sched lvl) p).err = (wWrite sched lvl c p).2.map errS := by rw [WR.write, hst]; rfl
    rw [Spec.writeAll, if_neg (by rw [he]; exact Bool.false_ne_true), Session.writeAll]
    cases hw : (wWrite sched lvl c p).2 with
    | some k =>
      rw [hw] at he'
      rw [writeAll_of_err _ _ _ (by rw [he']; rfl), hst', he']; exact ⟨rfl, rfl⟩
    | none =>
      rw [hw] at he'
      obtain ⟨h1, h2⟩ := ih _ (c + 1) _ he' hst'
      rw [h1, h2, List.append_assoc]; exact ⟨rfl, rfl⟩

/-- `Session.send` of the model, over an explicit list of `Write` calls -/
def sendW (sched : Sched) (s : Session.Session) (c : Nat) (ws : List Bytes) : Session.Step :=
  let u := Session.doUpgrade sched s c
  match u.err with
  | some k => ⟨u.evs, u.s, u.calls, some k⟩
  | none =>
    let w := Session.writeAll sched s.res.lvl u.calls ws
    ⟨u.evs ++ w.evs, u.s, w.calls, w.err⟩

theorem send_eq_sendW (sched : Sched) (s : Session.Session) (c : Nat) (m : Session.Msg) :
    Session.send sched s c m = sendW sched s c (Session.encodeWrites m) := rfl

theorem doUpgrade_res (sched : Sched) (s : Session.Session) (c : Nat) : (Session.doUpgrade sched s c).s.res = s.res := by
  unfold Session.doUpgrade
  dsimp only
  cases s.didUpgrade
  · cases (wFlush sched s.res.lvl s.res.kind c).2 <;> rfl
  · rfl

theorem WriteTo_recW (fuel : Nat) (sched : Sched) (lvl c : Nat) (log : List Ev) (m : Message)
    (hf : 13 < fuel) (hc : m.chunks.length < fuel) (hm : m.retry ≤ (maxInt64 : Int)) :
    Gen.Message_WriteTo fuel (toGenMsg m) (toGenW (recW sched lvl) (c, log)) =
      .ok (((m.writeTo (recW sched lvl) (c, log)).n : Int), (Session.writeAll sched lvl c m.writes).err.map errS, toGenMsg m,
        toGenW (recW sched lvl)
          ((Session.writeAll sched lvl c m.writes).calls, log ++ (Session.writeAll sched lvl c m.writes).evs)) := by
  have e := writeTo_eq_writeAll (recW sched lvl) (recW_obeys sched lvl) (c, log) m (retryOK_of_le m hm)
  have hw := recW_writeAll sched lvl m.writes (r0 (c, log)) c log rfl rfl
  rw [← e] at hw
  rw [WriteTo_eq fuel _ _ m hf hc, okOrPanic_of _ _ _ (by rw [e, writeAll_panic]; rfl), okOf, hw.1, hw.2]

theorem Send_eq (fuel : Nat) (sched : Sched) (s : Session.Session) (c : Nat) (log : List Ev) (lid : Gen.EventID) (m : Message)
    (hf : 13 < fuel) (hc : m.chunks.length < fuel) (hm : m.retry ≤ (maxInt64 : Int)) :
    Gen.Session_Send fuel (toGenS sched s (c, log) lid) (toGenMsg m) =
      .ok ((sendW sched s c m.writes).err.map errS,
           toGenS sched (sendW sched s c m.writes).s ((sendW sched s c m.writes).calls, log ++ (sendW sched s c m.writes).evs) lid,
           toGenMsg m) := by
  have hres := doUpgrade_res sched s c
  show (Gen.Session_doUpgrade fuel _ >>= _) = _
  rw [doUpgrade_eq, sendW]
  generalize Session.doUpgrade sched s c = u at hres ⊢
  obtain ⟨evs, ⟨res', du⟩, calls, _ | k⟩ := u
  · subst hres
    show (Gen.Message_WriteTo fuel (toGenMsg m) (toGenW (recW sched s.res.lvl) (calls, log ++ evs)) >>= _) = _
    rw [WriteTo_recW fuel sched _ _ _ m hf hc hm]
    generalize Session.writeAll sched s.res.lvl calls m.writes = wo
    obtain ⟨wevs, wcalls, _ | k⟩ := wo <;> simp only [List.append_assoc] <;> rfl
  · rfl

theorem Flush_eq (fuel : Nat) (sched : Sched) (s : Session.Session) (c : Nat) (log : List Ev) (lid : Gen.EventID) :
    Gen.Session_Flush fuel (toGenS sched s (c, log) lid) =
      .ok ((Session.flush sched s c).err.map errS,
           toGenS sched (Session.flush sched s c).s ((Session.flush sched s c).calls, log ++ (Session.flush sched s c).evs) lid) := by
  have hres := doUpgrade_res sched s c
  show (Gen.Session_doUpgrade fuel _ >>= _) = _
  rw [doUpgrade_eq, Session.flush]
  generalize Session.doUpgrade sched s c = u at hres ⊢
  obtain ⟨evs, ⟨res', du⟩, calls, _ | k⟩ := u
  · subst hres
    dsimp only [toGenS, ok_bind]
    by_cases hd : (s.didUpgrade == du) = true
    · simp only [hd, if_true]
      exact congrArg (fun l => Except.ok ((wFlush sched s.res.lvl s.res.kind calls).2.map errS,
        toGenS sched ⟨s.res, du⟩ (calls + 1, l) lid)) (List.append_assoc log evs [_])
    · simp only [hd]; rfl
  · rfl

theorem Send_eq_model (fuel : Nat) (sched : Sched) (s : Session.Session) (c : Nat) (log : List Ev) (lid : Gen.EventID) (m : Message)
    (hf : 13 < fuel) (hc : m.chunks.length < fuel) (hm : m.retry ≤ (maxInt64 : Int)) :
    Gen.Session_Send fuel (toGenS sched s (c, log) lid) (toGenMsg m) =
      .ok ((Session.send sched s c (msgOf m)).err.map errS,
           toGenS sched (Session.send sched s c (msgOf m)).s
             ((Session.send sched s c (msgOf m)).calls, log ++ (Session.send sched s c (msgOf m)).evs) lid,
           toGenMsg m) := by
  rw [send_eq_sendW, encodeWrites_msgOf m hm]
  exact Send_eq fuel sched s c log lid m hf hc hm

/-- what a provider does with the session -/
inductive GOp
  | send (m : Message)
  | flush

def GOp.toOp : GOp → Session.Op
  | .send m => .send (msgOf m)
  | .flush => .flush

/-- the messages of a call sequence are ones the translated `WriteTo` is proved for: a `time.Duration` retry value,
fewer chunks than the fuel -/
def GOp.Ok (fuel : Nat) : GOp → Prop
  | .send m => m.chunks.length < fuel ∧ m.retry ≤ (maxInt64 : Int)
  | .flush => True

/-- one call on the translated session: its result and the session afterwards -/
def genStep (fuel : Nat) (g : Gen.Session SSt) : GOp → GoM (Option String × Gen.Session SSt)
  | .send m => do
    let r ← Gen.Session_Send fuel g (toGenMsg m)
    pure (r.1, r.2.1)
  | .flush => Gen.Session_Flush fuel g

/-- a sequence of calls: the results in order and the session afterwards -/
def genRun (fuel : Nat) : Gen.Session SSt → List GOp → GoM (List (Option String) × Gen.Session SSt)
  | g, [] => pure ([], g)
  | g, op :: ops => do
    let r ← genStep fuel g op
    let q ← genRun fuel r.2 ops
    pure (r.1 :: q.1, q.2)

theorem genStep_eq (fuel : Nat) (sched : Sched) (s : Session.Session) (c : Nat) (log : List Ev) (lid : Gen.EventID) (op : GOp)
    (hf : 13 < fuel) (hok : op.Ok fuel) :
    genStep fuel (toGenS sched s (c, log) lid) op =
      .ok ((Session.step sched s c op.toOp).err.map errS,
           toGenS sched (Session.step sched s c op.toOp).s
             ((Session.step sched s c op.toOp).calls, log ++ (Session.step sched s c op.toOp).evs) lid) := by
  cases op with
  | send m =>
    simp only [genStep, GOp.toOp, Session.step, bind, Except.bind, Send_eq_model fuel sched s c log lid m hf hok.1 hok.2]
    rfl
  | flush => simp only [genStep, GOp.toOp, Session.step, Flush_eq]

/-- **Every sequence of `Send` / `Flush` calls** on the translated session over the recording writer returns, call by
call, the model's results, makes exactly the model's writer calls (the log), and leaves the model's session. -/
theorem genRun_eq (fuel : Nat) (sched : Sched) (ops : List GOp) (s : Session.Session) (c : Nat) (log : List Ev) (lid : Gen.EventID)
    (hf : 13 < fuel) (hok : ∀ op ∈ ops, op.Ok fuel) :
    genRun fuel (toGenS sched s (c, log) lid) ops =
      .ok ((Session.runOps sched s c (ops.map GOp.toOp)).obs.map (fun e => e.ret.map errS),
           toGenS sched (Session.runOps sched s c (ops.map GOp.toOp)).s
             ((Session.runOps sched s c (ops.map GOp.toOp)).calls,
              log ++ Session.trace (Session.runOps sched s c (ops.map GOp.toOp)).obs) lid) := by
  induction ops generalizing s c log with
  | nil => simp [genRun, Session.runOps, Session.trace, pure, Except.pure]
  | cons op ops ih =>
    have h1 := genStep_eq fuel sched s c log lid op hf (hok op (by simp))
    have h2 := ih (Session.step sched s c op.toOp).s (Session.step sched s c op.toOp).calls
      (log ++ (Session.step sched s c op.toOp).evs) (fun o ho => hok o (by simp [ho]))
    simp only [genRun, bind, Except.bind, h1, h2, List.map_cons, Session.runOps, pure, Except.pure, Session.trace,
      List.flatMap_cons, List.append_assoc]

end GoSSE.GenEquiv
