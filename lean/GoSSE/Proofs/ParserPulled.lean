import GoSSE.Proofs.ParserScan
import GoSSE.Proofs.ParserStop
/-!
C20 `pulled_bounded`: the bytes the scanner has obtained from the reader never exceed the bytes consumed by the
tokens it has returned plus its limit `max(maxTokenSize, cap(buf))` (`BufInv`, kept by every `Scan` call), nor what
the source holds. The parser drives the scanner through `Scan` only (`readLoop_sc`), so both hold of the whole run.
-/
namespace GoSSE.Proofs
open GoSSE GoSSE.Spec GoSSE.Model

/-- scanner invariant; `c` = bytes consumed by the tokens returned so far -/
structure BufInv (L c : Nat) (s : Scanner) : Prop where
  pulled : s.pulled = c + s.data.length
  fits : s.start + s.data.length ≤ s.bufLen
  cap : s.bufLen ≤ L
  max : s.maxTok.toNat ≤ L

theorem bufInv_init (src : Source) (cfg : Option (Nat × Int)) : BufInv (limitOf cfg) 0 (mkScanner src cfg) := by
  obtain ⟨b, M, h, hl⟩ := mkScanner_eq src cfg
  rw [h, hl]
  exact ⟨rfl, Nat.zero_le _, Nat.le_max_left _ _, Nat.le_max_right _ _⟩

theorem BufInv.pulled_le {L c : Nat} {s : Scanner} (h : BufInv L c s) : s.pulled ≤ c + L := by
  have := h.pulled; have := h.fits; have := h.cap; omega

theorem BufInv.room {L c : Nat} {s s1 : Scanner} (h : BufInv L c s) (hr : Room s s1) : BufInv L c s1 := by
  have := h.cap; have := h.max; have := hr.bufHi
  exact ⟨by rw [hr.pulled, hr.data]; exact h.pulled, Nat.le_of_lt (hr.lt h.fits), by omega, by rw [hr.maxTok]; exact h.max⟩

theorem BufInv.fill {L c : Nat} {s : Scanner} (h : BufInv L c s) : BufInv L c (fill s) := by
  have := h.pulled; have := h.fits
  have := read_len_le s.src (s.bufLen - (s.start + s.data.length))
  refine ⟨?_, ?_, h.cap, h.max⟩
  · show s.pulled + _ = c + (s.data ++ _).length
    rw [List.length_append]; omega
  · show s.start + (s.data ++ _).length ≤ s.bufLen
    rw [List.length_append]; omega

theorem scan_pulled (L c fuel : Nat) (s : Scanner) (h : BufInv L c s) :
    (Scanner.scan fuel s).2.pulled ≤ c + L ∧
    match (Scanner.scan fuel s).1 with
    | some (adv, _) => BufInv L (c + adv) (Scanner.scan fuel s).2
    | none => BufInv L c (Scanner.scan fuel s).2 := by
  revert c h
  refine scan_induct
    (P := fun _ s r => ∀ c, BufInv L c s → r.2.pulled ≤ c + L ∧
      match r.1 with
      | some (adv, _) => BufInv L (c + adv) r.2
      | none => BufInv L c r.2) ?_ ?_ ?_ ?_ ?_ fuel s
  · exact fun s c h => ⟨h.pulled_le, h⟩
  · intro fuel s adv tok hsplit c h
    have hle := sf_adv_le s.data s.err.isSome
    have := h.pulled; have := h.fits
    rw [hsplit] at hle
    exact ⟨h.pulled_le, by simp only [List.length_drop]; omega, by simp only [List.length_drop]; omega, h.cap, h.max⟩
  · intro fuel s _ hdata c h
    have hp : BufInv L c { s with start := 0, data := [] } :=
      ⟨by rw [h.pulled, hdata], Nat.zero_le _, h.cap, h.max⟩
    exact ⟨hp.pulled_le, hp⟩
  · intro fuel s _ _ hfull _ c h
    have hp : BufInv L c { s with start := 0, err := some .tooLong } :=
      ⟨h.pulled, by show 0 + s.data.length ≤ s.bufLen; omega, h.cap, h.max⟩
    exact ⟨hp.pulled_le, hp⟩
  · exact fun fuel s s1 r _ _ hroom ih c h => ih c (h.room hroom).fill

theorem parserNext_sc (K : Scanner → Prop)
    (hK : ∀ s, K s → K (Scanner.scan (s.src.size + s.data.length + 4) s).2)
    (fuel : Nat) (p : Parser) (h : K p.sc) : K (Parser.next fuel p).2.sc := by
  induction fuel generalizing p with
  | zero => exact h
  | succ fuel ih =>
    rw [Parser.next]
    split
    · exact h
    · have hs := hK p.sc h
      split
      · rename_i heq; rw [heq] at hs; exact hs
      · rename_i heq; rw [heq] at hs; exact ih _ hs

theorem readLoop_sc (K : Scanner → Prop)
    (hK : ∀ s, K s → K (Scanner.scan (s.src.size + s.data.length + 4) s).2)
    (conn : Bool) (stopAt : Option Nat) (fuel : Nat) (p : Parser) (st : RState) (outs : List Out) (h : K p.sc) :
    K (readLoop conn stopAt fuel p st outs).1.sc := by
  induction fuel generalizing p st outs with
  | zero => exact h
  | succ fuel ih =>
    have hn := parserNext_sc K hK (p.sc.src.size + p.sc.data.length + 4) p h
    rcases next_cases p (p.sc.src.size + p.sc.data.length + 4) with ⟨p', e⟩ | ⟨f, p', e⟩ <;> rw [e] at hn
    · rw [readLoop_succ_none _ _ _ _ _ _ _ e]; exact hn
    · rw [readLoop_succ_some _ _ _ _ _ _ _ _ e]
      split
      · exact hn
      · exact ih _ _ _ hn

/-- `Reach s0 c s`: the scanner state `s` is obtained from `s0` by successive `Scan` calls whose returned
tokens consumed `c` bytes in total (`c` is a ghost) -/
inductive Reach (s0 : Scanner) : Nat → Scanner → Prop
  | init : Reach s0 0 s0
  | tok {c s fuel adv t s'} : Reach s0 c s → Scanner.scan fuel s = (some (adv, t), s') → Reach s0 (c + adv) s'
  | stop {c s fuel s'} : Reach s0 c s → Scanner.scan fuel s = (none, s') → Reach s0 c s'

theorem Reach.keeps {s0 : Scanner} {K : Nat → Scanner → Prop} (h0 : K 0 s0)
    (hK : ∀ c s fuel, K c s → match (Scanner.scan fuel s).1 with
      | some (adv, _) => K (c + adv) (Scanner.scan fuel s).2
      | none => K c (Scanner.scan fuel s).2)
    {c : Nat} {s : Scanner} (h : Reach s0 c s) : K c s := by
  induction h with
  | init => exact h0
  | @tok c s fuel adv t s' _ heq ih =>
    have := hK c s fuel ih
    rw [heq] at this
    exact this
  | @stop c s fuel s' _ heq ih =>
    have := hK c s fuel ih
    rw [heq] at this
    exact this

theorem reach_bufInv {L : Nat} {s0 : Scanner} (h0 : BufInv L 0 s0) {c : Nat} {s : Scanner}
    (h : Reach s0 c s) : BufInv L c s :=
  h.keeps h0 fun c s fuel hi => (scan_pulled L c fuel s hi).2

/-- C20 `pulled_bounded`, on every reachable scanner state -/
theorem reach_pulled_bounded (src : Source) (cfg : Option (Nat × Int)) (c : Nat) (s : Scanner)
    (h : Reach (mkScanner src cfg) c s) : s.pulled ≤ c + limitOf cfg :=
  (reach_bufInv (bufInv_init src cfg) h).pulled_le

/-- the state right after a `Scan` that returns a token satisfies the bound even w.r.t. the bytes consumed
*before* that token -/
theorem reach_scan_pulled_bounded (src : Source) (cfg : Option (Nat × Int)) (c : Nat) (s : Scanner)
    (h : Reach (mkScanner src cfg) c s) (fuel : Nat) :
    (Scanner.scan fuel s).2.pulled ≤ c + limitOf cfg :=
  (scan_pulled _ c fuel s (reach_bufInv (bufInv_init src cfg) h)).1

/-- the scanner inside the parser when `read()` returns -/
def finalScanner (conn : Bool) (lastID : Bytes) (src : Source) (cfg : Option (Nat × Int))
    (stopAt : Option Nat) : Scanner :=
  (readLoop conn stopAt (src.size + 4) { sc := mkScanner src cfg } { lastID := lastID } []).1.sc

theorem implRun_pulled (conn : Bool) (lastID : Bytes) (src : Source) (cfg : Option (Nat × Int))
    (stopAt : Option Nat) :
    (implRun conn lastID src cfg stopAt).2.2 = (finalScanner conn lastID src cfg stopAt).pulled :=
  finish_pulled conn stopAt _

theorem finalScanner_reach (conn : Bool) (lastID : Bytes) (src : Source) (cfg : Option (Nat × Int))
    (stopAt : Option Nat) :
    ∃ c, Reach (mkScanner src cfg) c (finalScanner conn lastID src cfg stopAt) := by
  refine readLoop_sc (fun s => ∃ c, Reach (mkScanner src cfg) c s) ?_ conn stopAt _ _ _ _ ⟨0, .init⟩
  intro s ⟨c, h⟩
  cases hr : Scanner.scan (s.src.size + s.data.length + 4) s with
  | mk o s' =>
    cases o with
    | none => exact ⟨c, h.stop hr⟩
    | some t => exact ⟨c + t.1, h.tok hr⟩

/-- C20 `pulled_bounded` for the whole run -/
theorem implRun_pulled_bounded (conn : Bool) (lastID : Bytes) (src : Source) (cfg : Option (Nat × Int))
    (stopAt : Option Nat) :
    ∃ c, Reach (mkScanner src cfg) c (finalScanner conn lastID src cfg stopAt) ∧
      (implRun conn lastID src cfg stopAt).2.2 ≤ c + limitOf cfg := by
  obtain ⟨c, h⟩ := finalScanner_reach conn lastID src cfg stopAt
  exact ⟨c, h, by rw [implRun_pulled]; exact reach_pulled_bounded src cfg c _ h⟩

/-- bytes the source still holds -/
def Source.left (s : Source) : Nat := (s.chunks.map List.length).sum

theorem read_left (s : Source) (free : Nat) :
    (s.read free).1.length + Source.left (s.read free).2.2 = Source.left s := by
  have h := read_cases s free
  generalize s.read free = q at h
  unfold Source.left
  cases h with
  | empty hc => exact Nat.zero_add _
  | last c hc hfit => rw [hc]; simp
  | whole c rest hc hfit => rw [hc]; simp
  | cut c rest hc hlt =>
    rw [hc]
    simp only [List.map_cons, List.sum_cons, List.length_take, List.length_drop]
    omega

theorem fill_total (s : Scanner) :
    (fill s).pulled + Source.left (fill s).src = s.pulled + Source.left s.src := by
  have := read_left s.src (s.bufLen - (s.start + s.data.length))
  simp only [fill]; omega

theorem scan_total (fuel : Nat) (s : Scanner) :
    (Scanner.scan fuel s).2.pulled + Source.left (Scanner.scan fuel s).2.src = s.pulled + Source.left s.src := by
  refine scan_induct (P := fun _ s r => r.2.pulled + Source.left r.2.src = s.pulled + Source.left s.src)
    ?_ ?_ ?_ ?_ ?_ fuel s
  · exact fun _ => rfl
  · exact fun _ _ _ _ _ => rfl
  · exact fun _ _ _ _ => rfl
  · exact fun _ _ _ _ _ _ => rfl
  · intro fuel s s1 r _ _ hroom ih
    rw [ih, fill_total, hroom.pulled, hroom.src]

theorem reach_total {s0 : Scanner} {c : Nat} {s : Scanner} (h : Reach s0 c s) :
    s.pulled + Source.left s.src = s0.pulled + Source.left s0.src :=
  h.keeps (K := fun _ s => s.pulled + Source.left s.src = s0.pulled + Source.left s0.src) rfl fun _ s fuel hi => by
    have := (scan_total fuel s).trans hi
    split <;> exact this

theorem implRun_pulled_le_source (conn : Bool) (lastID : Bytes) (src : Source) (cfg : Option (Nat × Int))
    (stopAt : Option Nat) :
    (implRun conn lastID src cfg stopAt).2.2 ≤ (src.chunks.map List.length).sum := by
  obtain ⟨c, h⟩ := finalScanner_reach conn lastID src cfg stopAt
  have := reach_total h
  have h0 : (mkScanner src cfg).pulled + Source.left (mkScanner src cfg).src = (src.chunks.map List.length).sum := by
    obtain ⟨b, M, h, _⟩ := mkScanner_eq src cfg
    rw [h]; exact Nat.zero_add _
  rw [implRun_pulled]
  omega

end GoSSE.Proofs
