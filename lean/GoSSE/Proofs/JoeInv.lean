import GoSSE.Model.Joe
/-!
The safety invariant `Inv` of Joe's transition system, what the loop's channel operations do in a state satisfying
it, and the ways in which a changed state satisfies it again.
-/
namespace GoSSE.Proofs.Joe
open GoSSE.Model.Joe

@[simp] theorem upd_same {α} (f : Nat → α) (i : Nat) (v : α) : upd f i v i = v := by simp [upd]
theorem upd_other {α} (f : Nat → α) (i j : Nat) (v : α) (h : j ≠ i) : upd f i v j = f j := by simp [upd, h]
theorem upd_apply {α} (f : Nat → α) (i j : Nat) (v : α) : upd f i v j = if j = i then v else f j := rfl

theorem upd_proj {α β} (g : α → β) (f : Nat → α) {i j : Nat} (v : α) (h : j = i → g v = g (f i)) :
    g (upd f i v j) = g (f j) := by
  by_cases hji : j = i
  · subst hji; rw [upd_same]; exact h rfl
  · rw [upd_other _ _ _ _ hji]

theorem upd_upd {α} (f : Nat → α) (i : Nat) (v w : α) : upd (upd f i v) i w = upd f i w := by
  funext j; simp only [upd]; split <;> rfl

theorem ite_eq_some {α} {p : Prop} [Decidable p] {x : Option α} {b : α}
    (h : (if p then x else none) = some b) : p ∧ x = some b := by
  split at h
  · exact ⟨‹p›, h⟩
  · cases h

theorem ite_none_eq_some {α} {p : Prop} [Decidable p] {x : Option α} {b : α}
    (h : (if p then none else x) = some b) : ¬ p ∧ x = some b := by
  split at h
  · cases h
  · exact ⟨‹¬ p›, h⟩

theorem ite_eq_some_or {α} {p : Prop} [Decidable p] {x y : Option α} {b : α}
    (h : (if p then x else y) = some b) : (p ∧ x = some b) ∨ (¬ p ∧ y = some b) := by
  split at h
  · exact Or.inl ⟨‹p›, h⟩
  · exact Or.inr ⟨‹¬ p›, h⟩

theorem ite_isSome {α} {p : Prop} [Decidable p] {x : Option α} (hp : p) (hx : x.isSome = true) :
    (if p then x else none).isSome = true := by
  rw [if_pos hp]; exact hx

/-! `step` at the labels whose guard is a `match` (for the others it is an `if`, which `ite_eq_some` reads off). -/

theorem step_pubRecv (c : Cfg) (s : St) (p : PubId) :
    step c s (.pubRecv p) =
      match (s.pubs p).pc with
      | .handed e => some (setPub s p { s.pubs p with pc := .returned e })
      | _ => none := rfl

theorem step_fanStep (c : Cfg) (s : St) (i : SubId) (sendOk flushOk : Bool) :
    step c s (.fanStep i sendOk flushOk) =
      match s.joe with
      | .fanout p rest =>
        if rest.contains i then
          let s1 := setSub s i { s.subs i with
            calls := (s.subs i).calls ++ [.send p sendOk] ++ (if sendOk then [.flush flushOk] else []) }
          if sendOk && flushOk then some { s1 with joe := .fanout p (rest.erase i) }
          else
            let s2 := sendChan s1 i (.own i)
            some (if bad s2 then s2
              else { setSub s2 i { s2.subs i with endAt := some s2.log.length } with joe := .failed p i (rest.erase i) })
        else none
      | _ => none := rfl

theorem step_fanRemove (c : Cfg) (s : St) :
    step c s .fanRemove =
      match s.joe with
      | .failed p i rest =>
        some (if bad (removeSubscriber s i) then removeSubscriber s i else { removeSubscriber s i with joe := .fanout p rest })
      | _ => none := rfl

theorem step_fanDone (c : Cfg) (s : St) :
    step c s .fanDone = match s.joe with | .fanout _ [] => some { s with joe := .idle } | _ => none := rfl

structure Inv (s : St) : Prop where
  ok : s.joe ≠ .panicked ∧ s.joe ≠ .blocked
  nodup : s.subscribers.Nodup
  -- in `failed p i rest` the loop has put `i`'s own error into its channel and not yet removed `i`; `Subscribe` may already have
  -- taken the error and returned: the exception in `reg` and in `ret`
  reg : ∀ i ∈ s.subscribers, (s.subs i).ch.closed = false ∧
          ((s.subs i).ch.buf = none ∨ ∃ p rest, s.joe = .failed p i rest)
  fresh : ∀ i, ((s.subs i).pc = .idle ∨ (s.subs i).pc = .start) → (s.subs i).ch = {} ∧ i ∉ s.subscribers
  fan : ∀ p rest, s.joe = .fanout p rest → rest.Nodup ∧ ∀ i ∈ rest, i ∈ s.subscribers
  fail : ∀ p i rest, s.joe = .failed p i rest →
          i ∈ s.subscribers ∧ rest.Nodup ∧ (∀ k ∈ rest, k ∈ s.subscribers) ∧ i ∉ rest
  ret : ∀ i r, (s.subs i).pc = .returned r → i ∉ s.subscribers ∨ ∃ p rest, s.joe = .failed p i rest

theorem isInit_init (b : Bool) : IsInit (init b) :=
  ⟨rfl, rfl, rfl, rfl, rfl, rfl, fun _ => ⟨rfl, rfl, rfl, rfl, rfl, rfl, rfl⟩, fun _ => rfl, fun _ => ⟨rfl, rfl⟩⟩

theorem inv_init {s : St} (h : IsInit s) : Inv s := by
  obtain ⟨hj, hs, _, _, _, _, hsub, _, _⟩ := h
  refine ⟨by simp [hj], by simp [hs], by simp [hs], ?_, by simp [hj], by simp [hj], ?_⟩
  · intro i _; exact ⟨(hsub i).2.2.1, by simp [hs]⟩
  · intro i r hr; simp [(hsub i).1] at hr

theorem inv_setSub {s : St} (h : Inv s) (i : SubId) (st : SubSt)
    (hreg : i ∈ s.subscribers → st.ch.closed = false ∧ (st.ch.buf = none ∨ ∃ p rest, s.joe = .failed p i rest))
    (hfresh : (st.pc = .idle ∨ st.pc = .start) → st.ch = {} ∧ i ∉ s.subscribers)
    (hret : ∀ r, st.pc = .returned r → i ∉ s.subscribers ∨ ∃ p rest, s.joe = .failed p i rest) :
    Inv (setSub s i st) := by
  refine ⟨h.ok, h.nodup, fun k hk => ?_, fun k hk => ?_, h.fan, h.fail, fun k r hr => ?_⟩
  · by_cases hki : k = i
    · subst hki; simp only [setSub, upd_same]; exact hreg hk
    · simp only [setSub, upd_other _ _ _ _ hki]; exact h.reg k hk
  · by_cases hki : k = i
    · subst hki; simp only [setSub, upd_same] at hk ⊢; exact hfresh hk
    · simp only [setSub, upd_other _ _ _ _ hki] at hk ⊢; exact h.fresh k hk
  · by_cases hki : k = i
    · subst hki; simp only [setSub, upd_same] at hr; exact hret r hr
    · simp only [setSub, upd_other _ _ _ _ hki] at hr; exact h.ret k r hr

theorem inv_doneClosed {s : St} (h : Inv s) (b : Bool) : Inv { s with doneClosed := b } :=
  ⟨h.ok, h.nodup, h.reg, h.fresh, h.fan, h.fail, h.ret⟩

/-- `removeSubscriber` of a registered subscriber whose channel is open: the explicit result -/
def closedSub (st : SubSt) (n : Nat) : SubSt :=
  { st with ch := ⟨st.ch.buf, true⟩, endAt := st.endAt.or (some n) }

@[simp] theorem closedSub_pc (st : SubSt) (n : Nat) : (closedSub st n).pc = st.pc := rfl
@[simp] theorem closedSub_calls (st : SubSt) (n : Nat) : (closedSub st n).calls = st.calls := rfl
@[simp] theorem closedSub_closed (st : SubSt) (n : Nat) : (closedSub st n).ch.closed = true := rfl
@[simp] theorem closedSub_buf (st : SubSt) (n : Nat) : (closedSub st n).ch.buf = st.ch.buf := rfl
@[simp] theorem closedSub_ctx (st : SubSt) (n : Nat) : (closedSub st n).ctxCancelled = st.ctxCancelled := rfl
@[simp] theorem closedSub_replayed (st : SubSt) (n : Nat) : (closedSub st n).replayed = st.replayed := rfl
@[simp] theorem closedSub_regAt (st : SubSt) (n : Nat) : (closedSub st n).regAt = st.regAt := rfl
@[simp] theorem closedSub_endAt (st : SubSt) (n : Nat) : (closedSub st n).endAt = st.endAt.or (some n) := rfl

theorem remove_mem {s : St} (i : SubId) (hi : i ∈ s.subscribers) (hc : (s.subs i).ch.closed = false) :
    removeSubscriber s i =
      { s with subscribers := s.subscribers.erase i, subs := upd s.subs i (closedSub (s.subs i) s.log.length) } := by
  have hi' : s.subscribers.contains i = true := by simpa using hi
  unfold removeSubscriber
  rw [if_pos hi']
  simp only [closeChan, hc, setSub, Bool.false_eq_true, if_false, upd_same, closedSub]
  congr 1
  funext j
  by_cases hj : j = i
  · subst hj; simp [upd]
  · simp [upd, hj]

theorem remove_not_mem {s : St} (i : SubId) (hi : i ∉ s.subscribers) : removeSubscriber s i = s := by
  have hi' : ¬ (s.subscribers.contains i = true) := by simpa using hi
  unfold removeSubscriber
  rw [if_neg hi']

theorem setSub_setSub (s : St) (i : SubId) (v w : SubSt) : setSub (setSub s i v) i w = setSub s i w := by
  simp only [setSub, upd_upd]

theorem sendChan_ok (s : St) (i : SubId) (e : Err) (hc : (s.subs i).ch.closed = false)
    (hb : (s.subs i).ch.buf = none) :
    sendChan s i e = setSub s i { s.subs i with ch := ⟨some e, false⟩ } := by
  simp only [sendChan, hc, hb, Bool.false_eq_true, if_false, Option.isSome_none, setSub]

theorem closeChan_ok (s : St) (i : SubId) (hc : (s.subs i).ch.closed = false) :
    closeChan s i = setSub s i { s.subs i with ch := ⟨(s.subs i).ch.buf, true⟩ } := by
  simp only [closeChan, hc, Bool.false_eq_true, if_false]

theorem sendChan_frame (s : St) (i : SubId) (e : Err) : ∃ j f, sendChan s i e = { s with joe := j, subs := f } := by
  unfold sendChan; split
  · exact ⟨_, _, rfl⟩
  · split <;> exact ⟨_, _, rfl⟩

theorem closeChan_frame (s : St) (i : SubId) : ∃ j f, closeChan s i = { s with joe := j, subs := f } := by
  unfold closeChan; split <;> exact ⟨_, _, rfl⟩

theorem removeSubscriber_frame (s : St) (i : SubId) :
    ∃ j f l, removeSubscriber s i = { s with joe := j, subs := f, subscribers := l } := by
  unfold removeSubscriber; split
  · obtain ⟨j, f, e⟩ := closeChan_frame { s with subscribers := s.subscribers.erase i } i
    rw [e]; exact ⟨_, _, _, rfl⟩
  · exact ⟨_, _, _, rfl⟩

theorem closeAll_frame (l : List SubId) (s : St) :
    ∃ j f l', closeAll l s = { s with joe := j, subs := f, subscribers := l' } := by
  induction l generalizing s with
  | nil => exact ⟨_, _, _, rfl⟩
  | cons i is ih =>
    obtain ⟨j, f, l', e⟩ := removeSubscriber_frame s i
    rw [closeAll, e]
    exact ih _

theorem closeAll_self (l : List SubId) (s : St) (hl : s.subscribers = l) (hnd : l.Nodup)
    (hop : ∀ i ∈ l, (s.subs i).ch.closed = false) :
    closeAll l s = { s with subscribers := [],
                            subs := fun k => if k ∈ l then closedSub (s.subs k) s.log.length else s.subs k } := by
  induction l generalizing s with
  | nil =>
    cases s; simp only at hl; subst hl
    simp only [closeAll, List.not_mem_nil, if_false]
  | cons i is ih =>
    obtain ⟨hni, hnd'⟩ := List.nodup_cons.mp hnd
    have hm : i ∈ s.subscribers := hl ▸ List.mem_cons_self
    have hop' : ∀ k ∈ is, ((upd s.subs i (closedSub (s.subs i) s.log.length)) k).ch.closed = false := by
      intro k hk
      have hki : k ≠ i := fun e => hni (e ▸ hk)
      rw [upd_other _ _ _ _ hki]; exact hop k (List.mem_cons_of_mem _ hk)
    rw [closeAll, remove_mem i hm (hop i List.mem_cons_self),
      ih _ (by simp only [hl, List.erase_cons_head]) hnd' hop']
    congr 1
    funext k
    by_cases hk : k = i
    · subst hk; simp only [hni, if_false, upd_same, List.mem_cons_self, if_true]
    · simp only [upd_other _ _ _ _ hk, List.mem_cons, hk, false_or]

theorem inv_congr {s s' : St} (h : Inv s) (hj : s'.joe = s.joe) (hs : s'.subscribers = s.subscribers)
    (hsub : s'.subs = s.subs) : Inv s' := by
  obtain ⟨a, b, c, d, e, f, g⟩ := h
  exact ⟨by rw [hj]; exact a, by rw [hs]; exact b, by rw [hs, hsub, hj]; exact c, by rw [hs, hsub]; exact d,
    by rw [hs, hj]; exact e, by rw [hs, hj]; exact f, by rw [hs, hsub, hj]; exact g⟩

theorem inv_joe {s : St} (h : Inv s) (j' : JoePc) (hnf : ∀ p i rest, s.joe ≠ .failed p i rest)
    (hok : j' ≠ .panicked ∧ j' ≠ .blocked)
    (hfan : ∀ p rest, j' = .fanout p rest → rest.Nodup ∧ ∀ i ∈ rest, i ∈ s.subscribers)
    (hfail : ∀ p i rest, j' = .failed p i rest →
      i ∈ s.subscribers ∧ rest.Nodup ∧ (∀ k ∈ rest, k ∈ s.subscribers) ∧ i ∉ rest) :
    Inv { s with joe := j' } := by
  refine ⟨hok, h.nodup, fun k hk => ⟨(h.reg k hk).1, Or.inl ?_⟩, h.fresh, hfan, hfail, fun k r hr => Or.inl ?_⟩
  · exact (h.reg k hk).2.resolve_right fun ⟨p, rest, hf⟩ => hnf p k rest hf
  · exact (h.ret k r hr).resolve_right fun ⟨p, rest, hf⟩ => hnf p k rest hf

theorem inv_erase {s : St} (h : Inv s) (i : SubId) (st : SubSt) (j' : JoePc)
    (hnf : ∀ p k rest, s.joe = .failed p k rest → k = i)
    (hpc : ¬ (st.pc = .idle ∨ st.pc = .start)) (hok : j' ≠ .panicked ∧ j' ≠ .blocked)
    (hfan : ∀ p rest, j' = .fanout p rest → rest.Nodup ∧ ∀ k ∈ rest, k ∈ s.subscribers ∧ k ≠ i)
    (hfail : ∀ p k rest, j' ≠ .failed p k rest) :
    Inv { s with subs := upd s.subs i st, subscribers := s.subscribers.erase i, joe := j' } := by
  have hne : ∀ k ∈ s.subscribers.erase i, k ≠ i := fun k hk e => h.nodup.not_mem_erase (e ▸ hk)
  refine ⟨hok, h.nodup.erase i, fun k hk => ?_, fun k hk => ?_, fun p rest hf => ?_,
    fun p k rest hf => absurd hf (hfail p k rest), fun k r hr => Or.inl fun hk => ?_⟩
  · have hki := hne k hk
    have hr := h.reg k (List.mem_of_mem_erase hk)
    simp only [upd_other _ _ _ _ hki]
    exact ⟨hr.1, Or.inl (hr.2.resolve_right fun ⟨p, rest, hf⟩ => hki (hnf p k rest hf))⟩
  · by_cases hki : k = i
    · subst hki; simp only [upd_same] at hk; exact absurd hk hpc
    · simp only [upd_other _ _ _ _ hki] at hk ⊢
      exact ⟨(h.fresh k hk).1, fun hm => (h.fresh k hk).2 (List.mem_of_mem_erase hm)⟩
  · obtain ⟨hnd, hsub⟩ := hfan p rest hf
    exact ⟨hnd, fun k hk => (List.mem_erase_of_ne (hsub k hk).2).mpr (hsub k hk).1⟩
  · have hki := hne k hk
    simp only [upd_other _ _ _ _ hki] at hr
    exact (h.ret k r hr).elim (fun hn => hn (List.mem_of_mem_erase hk)) fun ⟨p, rest, hf⟩ => hki (hnf p k rest hf)

theorem inv_register {s : St} (h : Inv s) (i : SubId) (st : SubSt) (hpc : (s.subs i).pc = .start)
    (hj : s.joe = .idle) (hst : st.pc = .waiting) (hch : st.ch = (s.subs i).ch) (r : Bool) :
    Inv { s with subs := upd s.subs i st, subscribers := i :: s.subscribers, replayer := r } := by
  obtain ⟨hch0, hni⟩ := h.fresh i (Or.inr hpc)
  have hnf : ∀ k, ¬ ∃ p rest, s.joe = .failed p k rest := fun k ⟨p, rest, hf⟩ => by rw [hj] at hf; cases hf
  refine ⟨h.ok, List.nodup_cons.mpr ⟨hni, h.nodup⟩, fun k hk => ?_, fun k hk => ?_, fun p rest hf => ?_,
    fun p k rest hf => ?_, fun k r hr => Or.inl ?_⟩
  · by_cases hki : k = i
    · subst hki; simp only [upd_same, hch, hch0]; exact ⟨trivial, Or.inl trivial⟩
    · have hr := h.reg k ((List.mem_cons.mp hk).resolve_left hki)
      simp only [upd_other _ _ _ _ hki]
      exact ⟨hr.1, Or.inl (hr.2.resolve_right (hnf k))⟩
  · by_cases hki : k = i
    · subst hki; simp only [upd_same, hst] at hk; cases hk <;> contradiction
    · simp only [upd_other _ _ _ _ hki] at hk ⊢
      exact ⟨(h.fresh k hk).1, fun hm => (List.mem_cons.mp hm).elim hki (h.fresh k hk).2⟩
  · rw [show s.joe = _ from hf] at hj; cases hj
  · rw [show s.joe = _ from hf] at hj; cases hj
  · by_cases hki : k = i
    · subst hki; simp only [upd_same, hst] at hr; cases hr
    · simp only [upd_other _ _ _ _ hki] at hr
      exact fun hm => (List.mem_cons.mp hm).elim hki ((h.ret k r hr).resolve_right (hnf k))

theorem inv_exit {s : St} (h : Inv s) :
    Inv { s with joe := .exited, subscribers := [],
                 subs := fun k => if k ∈ s.subscribers then closedSub (s.subs k) s.log.length else s.subs k } := by
  refine ⟨⟨nofun, nofun⟩, List.nodup_nil, nofun, fun k hk => ?_, nofun, nofun, fun k r _ => Or.inl List.not_mem_nil⟩
  by_cases hm : k ∈ s.subscribers
  · simp only [hm, if_true, closedSub_pc] at hk; exact absurd hm (h.fresh k hk).2
  · simp only [hm, if_false] at hk ⊢; exact ⟨(h.fresh k hk).1, List.not_mem_nil⟩

end GoSSE.Proofs.Joe
