import GoSSE.Model.Session
import GoSSE.Proofs.MessageWrite
import GoSSE.Proofs.MessageBuild
/-!
`Model/Session.lean` keeps a small self-contained encoding (`Msg`, `encodeWrites`: the list of `Write` calls);
`Model/Message.lean` models `Message.WriteTo` in depth (`Message.writes`). For every message with a `time.Duration`
retry value they are the same list of `Write` calls (`encodeWrites_msgOf`), so what C16 proves over the one holds of the
other.
-/
namespace GoSSE.Proofs
open GoSSE GoSSE.Model GoSSE.Spec

def msgOf (m : Message) : Session.Msg :=
  { id := if m.id.set then some m.id.value else none,
    typ := if m.typ.set then some m.typ.value else none,
    retryMs := if m.millis ≤ 0 then 0 else m.millis.toNat,
    chunks := m.chunks.map fun c => (c.content, c.isComment) }

theorem digitChar_byte : ∀ d : Fin 10, UInt8.ofNat (Nat.digitChar d.val).toNat = 48 + UInt8.ofNat d.val := by decide

theorem accLoop_zero (j : Nat) (acc : Bytes) : accLoop j 0 acc = some acc := by
  cases j <;> simp [accLoop]

theorem accLoop_toDigits (j n : Nat) (acc : Bytes) (hpos : 0 < n) (h : n < 10 ^ j) :
    accLoop j n acc = some ((Nat.toDigits 10 n).map (fun ch => UInt8.ofNat ch.toNat) ++ acc) := by
  induction j generalizing n acc with
  | zero => exact absurd h (Nat.not_lt_of_ge hpos)
  | succ j ih =>
    have hd : UInt8.ofNat (Nat.digitChar (n % 10)).toNat = 48 + UInt8.ofNat (n % 10) :=
      digitChar_byte ⟨n % 10, Nat.mod_lt _ (by decide)⟩
    rw [accLoop, if_neg (Nat.ne_of_gt hpos), ← hd]
    by_cases hlt : n < 10
    · rw [Nat.div_eq_of_lt hlt, accLoop_zero, Nat.mod_eq_of_lt hlt, Nat.toDigits_of_lt_base hlt]; rfl
    · have hle := Nat.le_of_not_lt hlt
      rw [ih (n / 10) _ (Nat.div_pos hle (by decide))
          (Nat.div_lt_of_lt_mul (by rwa [Nat.pow_succ, Nat.mul_comm] at h)),
        Nat.toDigits_of_base_le (by decide) hle, List.map_append, List.append_assoc]; rfl

-- 13: the buffer of `writeRetry` holds the digits of `maxInt64` ns in ms (9223372036854 < 10 ^ 13, `millis_lt`)
theorem digits_eq_retryDigits (n : Nat) (hpos : 0 < n) (h : n < 10 ^ 13) :
    Session.digits n = (retryDigits n).getD [] := by
  rw [retryDigits_eq, accLoop_toDigits 13 n [] hpos h]
  simp [Session.digits]

theorem millis_lt (m : Message) (hm : m.retry ≤ (maxInt64 : Int)) (hpos : ¬ m.millis ≤ 0) : m.millis.toNat < 10 ^ 13 := by
  unfold Message.millis at hpos ⊢
  have h0 : 0 ≤ m.retry := by
    by_cases hneg : m.retry < 0
    · exact absurd (tdiv_nonpos m.retry (by omega)) hpos
    · omega
  rw [Int.tdiv_eq_ediv_of_nonneg h0]
  unfold maxInt64 at hm
  omega

theorem writeMessageField_msgOf (f : MField) (name : Bytes) :
    Session.writeMessageField (if f.set then some f.value else none) name =
      if f.set then fieldWrites name f.value else [] := by
  cases f.set <;> rfl

theorem writeRetry_msgOf (m : Message) (hm : m.retry ≤ (maxInt64 : Int)) :
    Session.writeRetry (if m.millis ≤ 0 then 0 else m.millis.toNat) =
      if m.millis ≤ 0 then [] else fieldWrites fieldBytesRetry ((retryDigits m.millis.toNat).getD []) := by
  by_cases h : m.millis ≤ 0
  · rw [if_pos h, if_pos h]; rfl
  · have hp : 0 < m.millis.toNat := by omega
    rw [if_neg h, if_neg h, Session.writeRetry, if_neg (Nat.ne_of_gt hp), digits_eq_retryDigits _ hp (millis_lt m hm h)]
    rfl

theorem chunkWrites_msgOf (c : Chunk) :
    Session.chunkWrites (c.content, c.isComment) =
      fieldWrites (if c.isComment then fieldBytesComment else fieldBytesData) c.content := by
  cases c.isComment <;> rfl

theorem encodeWrites_msgOf (m : Message) (hm : m.retry ≤ (maxInt64 : Int)) : Session.encodeWrites (msgOf m) = m.writes := by
  have hf : Session.fieldWrites (msgOf m) = m.bodyWrites := by
    unfold Session.fieldWrites Message.bodyWrites msgOf
    simp only [writeMessageField_msgOf, writeRetry_msgOf m hm, List.flatMap_map, chunkWrites_msgOf]
    rfl
  unfold Session.encodeWrites Message.writes
  rw [hf]
  rfl

end GoSSE.Proofs
