import GoSSE.Proofs.JoeInv
/-!
The transitions from a state satisfying `Inv`, with their successors written out (`Trans`); what a transition does
to single components of the state; every transition preserves `Inv`.
-/
namespace GoSSE.Proofs.Joe
open GoSSE.Model.Joe

def matchesP (c : Cfg) (i : SubId) (p : PubId) : Bool := topicsIntersect (c.subTopics i) (c.pubTopics p)

/-- what the replayer holds after `Put` with outcome `o` -/
def putStore (s : St) (p : PubId) : POutcome → List PubId
  | .ok n => if s.replayer then (s.store ++ [p]).drop n else s.store
  | _ => s.store

/-- The branches of `step` that a state satisfying `Inv` can take: the guard, and what `Inv` adds to it, as hypotheses;
the successor as record updates, with no `sendChan`, `closeChan`, `removeSubscriber`, `closeAll` or `bad` left. -/
inductive Trans (c : Cfg) (s : St) : Label → St → Prop
  | subCall (i : SubId) (hpc : (s.subs i).pc = .idle) :
      Trans c s (.subCall i) (setSub s i { s.subs i with pc := .start })
  | subAccept (i : SubId) (rc : List Call) (o : ROutcome) (hpc : (s.subs i).pc = .start) (hj : s.joe = .idle)
      (ho : o ≠ .err) (hn : s.replayer = false → o = .ok ∧ rc = []) (hni : i ∉ s.subscribers) :
      Trans c s (.subAccept i rc o)
        { s with
          subs := upd s.subs i { s.subs i with pc := .waiting, calls := (s.subs i).calls ++ rc, replayed := rc.length,
                                               regAt := some s.log.length, storeAt := s.store },
          subscribers := i :: s.subscribers, replayer := o != .panic && s.replayer }
  | subAcceptErr (i : SubId) (rc : List Call) (hpc : (s.subs i).pc = .start) (hj : s.joe = .idle)
      (hr : s.replayer = true) (hch : (s.subs i).ch = {}) (hni : i ∉ s.subscribers) :
      Trans c s (.subAccept i rc .err)
        (setSub s i { s.subs i with pc := .waiting, calls := (s.subs i).calls ++ rc, replayed := rc.length,
                                    storeAt := s.store, ch := ⟨some (.replay i), true⟩ })
  | subClosedEarly (i : SubId) (hpc : (s.subs i).pc = .start) (hd : s.doneClosed = true) :
      Trans c s (.subClosedEarly i) (setSub s i { s.subs i with pc := .returned (some .closed) })
  | subSeeCancel (i : SubId) (hpc : (s.subs i).pc = .waiting) (hc : (s.subs i).ctxCancelled = true) :
      Trans c s (.subSeeCancel i) (setSub s i { s.subs i with pc := .cancelled })
  | subRecvErr (i : SubId) (e : Err) (hpc : (s.subs i).pc = .waiting ∨ (s.subs i).pc = .cancelled)
      (hb : (s.subs i).ch.buf = some e) :
      Trans c s (.subRecv i)
        (setSub s i { s.subs i with pc := .returned (some e), ch := { (s.subs i).ch with buf := none } })
  | subRecvClosed (i : SubId) (hpc : (s.subs i).pc = .waiting ∨ (s.subs i).pc = .cancelled)
      (hb : (s.subs i).ch.buf = none) (hcl : (s.subs i).ch.closed = true) (hni : i ∉ s.subscribers) :
      Trans c s (.subRecv i) (setSub s i { s.subs i with pc := .returned none })
  | unsubAcceptMem (i : SubId) (hpc : (s.subs i).pc = .cancelled) (hj : s.joe = .idle) (hm : i ∈ s.subscribers) :
      Trans c s (.unsubAccept i)
        { s with subs := upd s.subs i { closedSub (s.subs i) s.log.length with pc := .returned none },
                 subscribers := s.subscribers.erase i }
  | unsubAcceptGone (i : SubId) (hpc : (s.subs i).pc = .cancelled) (hj : s.joe = .idle) (hm : i ∉ s.subscribers) :
      Trans c s (.unsubAccept i) (setSub s i { s.subs i with pc := .returned none })
  | cancel (i : SubId) (hc : (s.subs i).ctxCancelled = false) :
      Trans c s (.cancel i) (setSub s i { s.subs i with ctxCancelled := true })
  | pubCall (p : PubId) (hpc : (s.pubs p).pc = .idle) :
      Trans c s (.pubCall p) (setPub s p { s.pubs p with pc := .start })
  | pubNoTopic (p : PubId) (hpc : (s.pubs p).pc = .start) (ht : c.pubTopics p = []) :
      Trans c s (.pubNoTopic p) (setPub s p { s.pubs p with pc := .returned (some .noTopic) })
  | pubAccept (p : PubId) (o : POutcome) (hpc : (s.pubs p).pc = .start) (hj : s.joe = .idle)
      (ht : c.pubTopics p ≠ []) (hn : s.replayer = false → o = .ok 0) :
      Trans c s (.pubAccept p o)
        { s with
          pubs := upd s.pubs p { s.pubs p with pc := .handed (if o = .err then some (.put p) else none) },
          replayer := s.replayer && o != .panic, store := putStore s p o, log := s.log ++ [p],
          joe := .fanout p (s.subscribers.filter fun i => matchesP c i p) }
  | pubClosedEarly (p : PubId) (hpc : (s.pubs p).pc = .start) (ht : c.pubTopics p ≠ []) (hd : s.doneClosed = true) :
      Trans c s (.pubClosedEarly p) (setPub s p { s.pubs p with pc := .returned (some .closed) })
  | pubRecv (p : PubId) (e : Option Err) (hpc : (s.pubs p).pc = .handed e) :
      Trans c s (.pubRecv p) (setPub s p { s.pubs p with pc := .returned e })
  | fanStepOk (i : SubId) (a b : Bool) (p : PubId) (rest : List SubId) (hj : s.joe = .fanout p rest)
      (hm : i ∈ rest) (hab : (a && b) = true) (his : i ∈ s.subscribers) :
      Trans c s (.fanStep i a b)
        { s with
          subs := upd s.subs i { s.subs i with
            calls := (s.subs i).calls ++ [.send p a] ++ (if a then [.flush b] else []) },
          joe := .fanout p (rest.erase i) }
  /-- `Send` or `Flush` failed: the error goes into the subscriber's channel, which is open and empty -/
  | fanStepFail (i : SubId) (a b : Bool) (p : PubId) (rest : List SubId) (hj : s.joe = .fanout p rest)
      (hm : i ∈ rest) (hab : (a && b) = false) (his : i ∈ s.subscribers)
      (hcl : (s.subs i).ch.closed = false) (hb : (s.subs i).ch.buf = none) :
      Trans c s (.fanStep i a b)
        { s with
          subs := upd s.subs i { s.subs i with
            calls := (s.subs i).calls ++ [.send p a] ++ (if a then [.flush b] else []),
            ch := ⟨some (.own i), false⟩, endAt := some s.log.length },
          joe := .failed p i (rest.erase i) }
  | fanRemove (p : PubId) (i : SubId) (rest : List SubId) (hj : s.joe = .failed p i rest) (hm : i ∈ s.subscribers) :
      Trans c s .fanRemove
        { s with subs := upd s.subs i (closedSub (s.subs i) s.log.length),
                 subscribers := s.subscribers.erase i, joe := .fanout p rest }
  | fanDone (p : PubId) (hj : s.joe = .fanout p []) : Trans c s .fanDone { s with joe := .idle }
  /-- `closeSubscribers`: every registered subscriber's channel is open, and is closed -/
  | loopExit (hj : s.joe = .idle) (hd : s.doneClosed = true) :
      Trans c s .loopExit
        { s with joe := .exited, closedClosed := true, subscribers := [],
                 subs := fun k => if k ∈ s.subscribers then closedSub (s.subs k) s.log.length else s.subs k }
  | shutCall (k : ShutId) (hpc : (s.shuts k).pc = .idle) :
      Trans c s (.shutCall k) (setShut s k { s.shuts k with pc := .start })
  | shutClose (k : ShutId) (hpc : (s.shuts k).pc = .start) (hd : s.doneClosed = false) :
      Trans c s (.shutClose k) { s with shuts := upd s.shuts k { s.shuts k with pc := .waiting }, doneClosed := true }
  | shutRecovered (k : ShutId) (hpc : (s.shuts k).pc = .start) (hd : s.doneClosed = true) :
      Trans c s (.shutRecovered k) (setShut s k { s.shuts k with pc := .returned (some .closed) })
  | shutSeeClosed (k : ShutId) (hpc : (s.shuts k).pc = .waiting) (hcc : s.closedClosed = true) :
      Trans c s (.shutSeeClosed k) (setShut s k { s.shuts k with pc := .returned none })
  | shutCtx (k : ShutId) (hpc : (s.shuts k).pc = .waiting) (hx : (s.shuts k).ctxDone = true) :
      Trans c s (.shutCtx k) (setShut s k { s.shuts k with pc := .returned (some (.ctx k)) })
  | shutCancel (k : ShutId) (hx : (s.shuts k).ctxDone = false) :
      Trans c s (.shutCancel k) (setShut s k { s.shuts k with ctxDone := true })

/-- Inversion of `step` in a state satisfying `Inv`, which rules out the panicking and blocking branches. -/
theorem step_trans {c : Cfg} {s s' : St} {l : Label} (hi : Inv s) (hs : step c s l = some s') : Trans c s l s' := by
  cases l with
  | subCall i =>
    obtain ⟨hpc, hs⟩ := ite_eq_some hs
    cases hs; exact .subCall i hpc
  | subAccept i rc o =>
    obtain ⟨⟨hpc, hj⟩, hs⟩ := ite_eq_some hs
    obtain ⟨hch, hni⟩ := hi.fresh i (Or.inr hpc)
    rcases ite_eq_some_or hs with ⟨hr, hs⟩ | ⟨_, hs⟩
    · cases o with
      | ok => cases hs; exact .subAccept i rc .ok hpc hj nofun (fun h => by rw [hr] at h; cases h) hni
      | panic => cases hs; exact .subAccept i rc .panic hpc hj nofun (fun h => by rw [hr] at h; cases h) hni
      | err =>
        cases hs
        rw [sendChan_ok _ _ _ (by simp only [setSub, upd_same, hch]) (by simp only [setSub, upd_same, hch]),
          setSub_setSub, closeChan_ok _ _ (by simp only [setSub, upd_same]), setSub_setSub]
        simp only [setSub, upd_same]
        exact .subAcceptErr i rc hpc hj hr hch hni
    · obtain ⟨⟨rfl, rfl⟩, hs⟩ := ite_eq_some hs
      cases hs
      exact .subAccept i [] .ok hpc hj nofun (fun _ => ⟨rfl, rfl⟩) hni
  | subClosedEarly i =>
    obtain ⟨hg, hs⟩ := ite_eq_some hs
    cases hs; exact .subClosedEarly i hg.1 hg.2
  | subSeeCancel i =>
    obtain ⟨hg, hs⟩ := ite_eq_some hs
    cases hs; exact .subSeeCancel i hg.1 hg.2
  | subRecv i =>
    obtain ⟨hpc, hs⟩ := ite_eq_some hs
    split at hs
    · rename_i e hb; cases hs; exact .subRecvErr i e hpc hb
    · rename_i hb
      obtain ⟨hcl, hs⟩ := ite_eq_some hs
      cases hs
      refine .subRecvClosed i hpc hb hcl (fun hm => ?_)
      rw [(hi.reg i hm).1] at hcl; cases hcl
  | unsubAccept i =>
    obtain ⟨hg, hs⟩ := ite_eq_some hs
    cases hs
    by_cases hm : i ∈ s.subscribers
    · rw [remove_mem i hm (hi.reg i hm).1]
      simp only [setSub, upd_same, upd_upd]
      exact .unsubAcceptMem i hg.1 hg.2 hm
    · rw [remove_not_mem i hm]
      exact .unsubAcceptGone i hg.1 hg.2 hm
  | cancel i =>
    obtain ⟨hc, hs⟩ := ite_none_eq_some hs
    cases hs; exact .cancel i (Bool.eq_false_iff.mpr hc)
  | pubCall p =>
    obtain ⟨hpc, hs⟩ := ite_eq_some hs
    cases hs; exact .pubCall p hpc
  | pubNoTopic p =>
    obtain ⟨hg, hs⟩ := ite_eq_some hs
    cases hs; exact .pubNoTopic p hg.1 hg.2
  | pubAccept p o =>
    obtain ⟨hg, hs⟩ := ite_eq_some hs
    obtain ⟨hn, hs⟩ := ite_none_eq_some hs
    cases hs
    exact .pubAccept p o hg.1 hg.2.1 hg.2.2 fun hr => Decidable.byContradiction fun ho => hn ⟨by rw [hr]; nofun, ho⟩
  | pubClosedEarly p =>
    obtain ⟨hg, hs⟩ := ite_eq_some hs
    cases hs; exact .pubClosedEarly p hg.1 hg.2.1 hg.2.2
  | pubRecv p =>
    rw [step_pubRecv] at hs
    split at hs
    · rename_i e hpc; cases hs; exact .pubRecv p e hpc
    · cases hs
  | fanStep i a b =>
    rw [step_fanStep] at hs
    split at hs
    · rename_i p rest hj
      obtain ⟨hm, hs⟩ := ite_eq_some hs
      have hm : i ∈ rest := List.contains_iff_mem.mp hm
      have his : i ∈ s.subscribers := (hi.fan p rest hj).2 i hm
      rcases ite_eq_some_or hs with ⟨hab, hs⟩ | ⟨hab, hs⟩
      · cases hs; exact .fanStepOk i a b p rest hj hm hab his
      · cases hs
        have hcl := (hi.reg i his).1
        have hb : (s.subs i).ch.buf = none := (hi.reg i his).2.resolve_right
          (fun ⟨p', rest', hf⟩ => by rw [hj] at hf; cases hf)
        rw [sendChan_ok _ _ _ (by simp only [setSub, upd_same, hcl]) (by simp only [setSub, upd_same, hb]),
          setSub_setSub]
        simp only [bad, setSub, hj, upd_same, upd_upd]
        exact .fanStepFail i a b p rest hj hm (Bool.eq_false_iff.mpr hab) his hcl hb
    · cases hs
  | fanRemove =>
    rw [step_fanRemove] at hs
    split at hs
    · rename_i p i rest hj
      cases hs
      have hm := (hi.fail p i rest hj).1
      rw [remove_mem i hm (hi.reg i hm).1]
      simp only [bad, hj]
      exact .fanRemove p i rest hj hm
    · cases hs
  | fanDone =>
    rw [step_fanDone] at hs
    split at hs
    · rename_i p hj; cases hs; exact .fanDone p hj
    · cases hs
  | loopExit =>
    obtain ⟨hg, hs⟩ := ite_eq_some hs
    cases hs
    rw [closeAll_self _ s rfl hi.nodup (fun i hm => (hi.reg i hm).1)]
    simp only [bad, hg.1]
    exact .loopExit hg.1 hg.2
  | shutCall k =>
    obtain ⟨hpc, hs⟩ := ite_eq_some hs
    cases hs; exact .shutCall k hpc
  | shutClose k =>
    obtain ⟨hg, hs⟩ := ite_eq_some hs
    cases hs; exact .shutClose k hg.1 (Bool.eq_false_iff.mpr hg.2)
  | shutRecovered k =>
    obtain ⟨hg, hs⟩ := ite_eq_some hs
    cases hs; exact .shutRecovered k hg.1 hg.2
  | shutSeeClosed k =>
    obtain ⟨hg, hs⟩ := ite_eq_some hs
    cases hs; exact .shutSeeClosed k hg.1 hg.2
  | shutCtx k =>
    obtain ⟨hg, hs⟩ := ite_eq_some hs
    cases hs; exact .shutCtx k hg.1 hg.2
  | shutCancel k =>
    obtain ⟨hx, hs⟩ := ite_none_eq_some hs
    cases hs; exact .shutCancel k (Bool.eq_false_iff.mpr hx)

theorem shut_returned_upd {f : ShutId → ShutSt} {j k : ShutId} {v : ShutSt} {r : Option Err}
    (hb : ∀ r, (f k).pc ≠ .returned r) (ha : (upd f j v k).pc = .returned r) : k = j ∧ v.pc = .returned r := by
  by_cases hkj : k = j
  · subst hkj; rw [upd_same] at ha; exact ⟨rfl, ha⟩
  · rw [upd_other _ _ _ _ hkj] at ha; exact absurd ha (hb r)

/-- the subscription a label is about, if it changes that subscription's program counter -/
def pcSubject : Label → Option SubId
  | .subCall i | .subAccept i _ _ | .subClosedEarly i | .subSeeCancel i | .subRecv i | .unsubAccept i => some i
  | _ => none

theorem Trans.pc_frame {c : Cfg} {s s' : St} {l : Label} (h : Trans c s l s') (j : SubId) :
    (pcSubject l = some j ∧ ∀ r, (s.subs j).pc ≠ .returned r) ∨ (s'.subs j).pc = (s.subs j).pc := by
  cases h with
  | subCall i hpc | subAccept i _ _ hpc | subAcceptErr i _ hpc | subClosedEarly i hpc | subSeeCancel i hpc
  | unsubAcceptMem i hpc | unsubAcceptGone i hpc =>
    by_cases e : j = i
    · subst e; exact Or.inl ⟨rfl, fun r => by rw [hpc]; nofun⟩
    · exact Or.inr (congrArg SubSt.pc (upd_other _ _ _ _ e))
  | subRecvErr i _ hpc | subRecvClosed i hpc =>
    by_cases e : j = i
    · subst e; exact Or.inl ⟨rfl, fun r => by rcases hpc with hpc | hpc <;> (rw [hpc]; nofun)⟩
    · exact Or.inr (congrArg SubSt.pc (upd_other _ _ _ _ e))
  | cancel i | fanStepOk i | fanStepFail i => exact Or.inr (upd_proj SubSt.pc s.subs _ fun _ => rfl)
  | fanRemove p i => exact Or.inr (upd_proj SubSt.pc s.subs _ fun _ => rfl)
  | loopExit =>
    refine Or.inr ?_
    show (if j ∈ s.subscribers then closedSub (s.subs j) s.log.length else s.subs j).pc = _
    split <;> rfl
  | _ => exact Or.inr rfl

theorem Trans.calls_frame {c : Cfg} {s s' : St} {l : Label} (h : Trans c s l s') (j : SubId)
    (hst : (s.subs j).pc ≠ .start) (hfan : ∀ p rest, s.joe = .fanout p rest → j ∉ rest) :
    (s'.subs j).calls = (s.subs j).calls := by
  cases h with
  | subAccept i _ _ hpc | subAcceptErr i _ hpc =>
    exact upd_proj SubSt.calls s.subs _ fun e => absurd (e ▸ hpc) hst
  | fanStepOk i _ _ p rest hj hm | fanStepFail i _ _ p rest hj hm =>
    exact upd_proj SubSt.calls s.subs _ fun e => absurd (e ▸ hm) (hfan p rest hj)
  | subCall i | subClosedEarly i | subSeeCancel i | subRecvErr i | subRecvClosed i | unsubAcceptMem i
  | unsubAcceptGone i | cancel i => exact upd_proj SubSt.calls s.subs _ fun _ => rfl
  | fanRemove p i => exact upd_proj SubSt.calls s.subs _ fun _ => rfl
  | loopExit =>
    show (if j ∈ s.subscribers then closedSub (s.subs j) s.log.length else s.subs j).calls = _
    split <;> rfl
  | _ => rfl

theorem step_inv {c : Cfg} {s s' : St} (h : Inv s) (l : Label) (hs : step c s l = some s') : Inv s' := by
  cases step_trans h hs with
  | subCall i hpc => exact inv_setSub h i _ (h.reg i) (fun _ => h.fresh i (Or.inl hpc)) nofun
  | subAccept i rc o hpc hj => exact inv_register h i _ hpc hj (by rfl) (by rfl) _
  | subAcceptErr i rc hpc hj hr hch hni => exact inv_setSub h i _ (fun hm => absurd hm hni) nofun nofun
  | subClosedEarly i hpc => exact inv_setSub h i _ (h.reg i) nofun fun _ _ => Or.inl (h.fresh i (Or.inr hpc)).2
  | subSeeCancel i hpc => exact inv_setSub h i _ (h.reg i) nofun nofun
  | subRecvErr i e hpc hb =>
    refine inv_setSub h i _ (fun hm => ⟨(h.reg i hm).1, Or.inl rfl⟩) nofun fun _ _ => ?_
    exact Classical.or_iff_not_imp_left.mpr fun hm => (h.reg i (Classical.not_not.mp hm)).2.resolve_left
      (by rw [hb]; nofun)
  | subRecvClosed i hpc hb hcl hni => exact inv_setSub h i _ (h.reg i) nofun fun _ _ => Or.inl hni
  | unsubAcceptMem i hpc hj hm =>
    exact inv_erase h i _ s.joe (fun p k rest hf => by rw [hj] at hf; cases hf) nofun h.ok
      (fun p rest hf => by rw [hj] at hf; cases hf) (fun p k rest hf => by rw [hj] at hf; cases hf)
  | unsubAcceptGone i hpc hj hm => exact inv_setSub h i _ (h.reg i) nofun fun _ _ => Or.inl hm
  | cancel i => exact inv_setSub h i _ (h.reg i) (h.fresh i) (h.ret i)
  | pubAccept p o hpc hj =>
    refine inv_congr (inv_joe h (.fanout p (s.subscribers.filter fun i => matchesP c i p))
      (by rw [hj]; nofun) ⟨nofun, nofun⟩ (fun p' rest' e => ?_) nofun) rfl rfl rfl
    cases e
    exact ⟨h.nodup.filter _, fun k hk => (List.mem_filter.mp hk).1⟩
  | fanStepOk i a b p rest hj hm hab his =>
    obtain ⟨hnd, hsub⟩ := h.fan p rest hj
    have h1 : Inv { s with joe := .fanout p (rest.erase i) } :=
      inv_joe h _ (by rw [hj]; nofun) ⟨nofun, nofun⟩ (fun p' rest' e => by
        cases e
        exact ⟨hnd.erase i, fun k hk => hsub k (List.mem_of_mem_erase hk)⟩) nofun
    exact inv_setSub h1 i _ (fun hm => ⟨(h.reg i hm).1, Or.inl ((h.reg i hm).2.resolve_right
      fun ⟨p', rest', hf⟩ => by rw [hj] at hf; cases hf)⟩) (h.fresh i)
      fun r hr => Or.inl ((h.ret i r hr).resolve_right fun ⟨p', rest', hf⟩ => by rw [hj] at hf; cases hf)
  | fanStepFail i a b p rest hj hm hab his hcl hb =>
    obtain ⟨hnd, hsub⟩ := h.fan p rest hj
    have h1 : Inv { s with joe := .failed p i (rest.erase i) } :=
      inv_joe h _ (by rw [hj]; nofun) ⟨nofun, nofun⟩ nofun fun p' k rest' e => by
        cases e
        exact ⟨his, hnd.erase i, fun k hk => hsub k (List.mem_of_mem_erase hk), hnd.not_mem_erase⟩
    exact inv_setSub h1 i _ (fun _ => ⟨rfl, Or.inr ⟨p, _, rfl⟩⟩) (fun hp => absurd his (h.fresh i hp).2)
      fun _ _ => Or.inr ⟨p, _, rfl⟩
  | fanRemove p i rest hj hm =>
    obtain ⟨_, hnd, hsub, hni⟩ := h.fail p i rest hj
    refine inv_erase h i _ _ (fun p' k rest' hf => by rw [hj] at hf; cases hf; rfl)
      (fun hp => absurd hm (h.fresh i hp).2) ⟨nofun, nofun⟩ (fun p' rest' e => ?_) nofun
    cases e
    exact ⟨hnd, fun k hk => ⟨hsub k hk, fun e => hni (e ▸ hk)⟩⟩
  | fanDone p hj => exact inv_joe h .idle (by rw [hj]; nofun) ⟨nofun, nofun⟩ nofun nofun
  | loopExit => exact inv_congr (inv_exit h) rfl rfl rfl
  | _ => exact inv_congr h rfl rfl rfl

theorem reachable_inv {c : Cfg} {s : St} (h : Reachable c s) : Inv s := by
  induction h with
  | init hi => exact inv_init hi
  | step _ hs ih => exact step_inv ih _ hs

end GoSSE.Proofs.Joe
