import GoSSE.Gen.Reset
import GoSSE.Proofs.GenEquiv
import GoSSE.Proofs.MapLemmas
/-!
# The callback registry of a `Connection`, as translated from client_connection.go

`addSubscriber`, `addSubscriberToAll`, the two function literals they return (the *removers*: translated as definitions of
their own over the variables they capture — closure conversion: `addSubscriber` returns `(event, id)`,
`addSubscriberToAll` returns `id`) and `dispatch`. In the translated text a callback is a number (its identity) and a call
`cb(ev)` appends `(cb, ev)` to the log the `Connection` value carries (`cblog`); `callbacks` is an association list of
association lists and the two `range` statements of `dispatch` take their visiting orders as parameters (any lists).
`mu.Lock / RLock / Unlock` are no-ops: each translated function is one critical section (mutual exclusion is assumed —
the race-freedom clause of C13 stays with the `-race` runs of the differential harness).
-/
set_option linter.unusedSimpArgs false
namespace GoSSE.GenEquiv
open GoSSE GoSSE.GoRT GoSSE.MapL

/-- the callbacks registered for exactly the type `ty` (no entry reads as none registered) -/
abbrev typed (c : Gen.Connection) (ty : Bytes) : List (Int × Nat) := inner c.callbacks ty

/-- one call per visited key that is registered, in visiting order -/
def callsOf (m : List (Int × Nat)) (order : List Int) (ev : Gen.Event) : List (Nat × Gen.Event) :=
  (order.filterMap fun k => mapGet m k).map fun cb => (cb, ev)

theorem callsOf_nil (m : List (Int × Nat)) (ev : Gen.Event) : callsOf m [] ev = [] := rfl

/-- the call made at one visited key: through the callback registered there, if any -/
def callAt (o : Option Nat) (ev : Gen.Event) : List (Nat × Gen.Event) :=
  match o with
  | some cb => [(cb, ev)]
  | none => []

theorem callsOf_cons (m : List (Int × Nat)) (k : Int) (ks : List Int) (ev : Gen.Event) :
    callsOf m (k :: ks) ev = callAt (mapGet m k) ev ++ callsOf m ks ev := by
  unfold callsOf
  cases h : mapGet m k <;> simp only [List.filterMap_cons, h, callAt, List.map_cons, List.nil_append, List.singleton_append]

theorem callsOf_empty_map (order : List Int) (ev : Gen.Event) : callsOf [] order ev = [] := by
  induction order with
  | nil => rfl
  | cons k ks ih => rw [callsOf_cons, ih]; rfl

def logged (c : Gen.Connection) (l : List (Nat × Gen.Event)) : Gen.Connection := { c with cblog := c.cblog ++ l }

theorem logged_nil (c : Gen.Connection) : logged c [] = c := by
  unfold logged; rw [List.append_nil]
theorem logged_logged (c : Gen.Connection) (a b : List (Nat × Gen.Event)) : logged (logged c a) b = logged c (a ++ b) := by
  unfold logged; rw [List.append_assoc]

/-- `look` is the map the loop reads, which logging does not change -/
theorem foldl_callAt (look : Gen.Connection → List (Int × Nat)) (hl : ∀ c l, look (logged c l) = look c) (ev : Gen.Event)
    (ks : List Int) (c : Gen.Connection) :
    ks.foldl (fun c k => logged c (callAt (mapGet (look c) k) ev)) c = logged c (callsOf (look c) ks ev) := by
  induction ks generalizing c with
  | nil => rw [callsOf_nil, logged_nil]; rfl
  | cons k ks ih => rw [List.foldl_cons, ih, hl, logged_logged, callsOf_cons]

theorem disp1_body (fuel : Nat) (ev : Gen.Event) (pre suf : List Int) (k : Int) (c : Gen.Connection) :
    Gen.Connection_dispatch_loop1 fuel ev (pre ++ k :: suf) ((pre.length : Int), c) =
      .ok (.next (((pre.length + 1 : Nat) : Int), logged c (callAt (mapGet (typed c ev.Type') k) ev))) := by
  unfold Gen.Connection_dispatch_loop1
  simp only [lt_len_mid pre suf k, if_true, bind, Except.bind, idx_mid pre suf k, cast_succ]
  cases h : mapGet (typed c ev.Type') k with
  | none =>
    -- `h` as the translated body spells the lookup: `simp only` does not unfold `typed` and `inner`
    have h' : mapGet ((mapGet c.callbacks ev.Type').getD []) k = none := h
    simp only [h', Option.isNone_none, if_true, pure, Except.pure, callAt, logged_nil]
  | some v =>
    have h' : mapGet ((mapGet c.callbacks ev.Type').getD []) k = some v := h
    simp only [h', Option.isNone_some, Bool.false_eq_true, if_false, pure, Except.pure, derefPtr, callAt]
    rfl

theorem disp1_end (fuel : Nat) (ev : Gen.Event) (xs : List Int) (c : Gen.Connection) :
    Gen.Connection_dispatch_loop1 fuel ev xs ((xs.length : Int), c) = .ok (.brk ((xs.length : Int), c)) := by
  unfold Gen.Connection_dispatch_loop1
  simp only [not_lt_len_end xs, if_false, pure, Except.pure]

theorem disp2_body (fuel : Nat) (ev : Gen.Event) (pre suf : List Int) (k : Int) (c : Gen.Connection) :
    Gen.Connection_dispatch_loop2 fuel ev (pre ++ k :: suf) ((pre.length : Int), c) =
      .ok (.next (((pre.length + 1 : Nat) : Int), logged c (callAt (mapGet c.callbacksAll k) ev))) := by
  unfold Gen.Connection_dispatch_loop2
  simp only [lt_len_mid pre suf k, if_true, bind, Except.bind, idx_mid pre suf k, cast_succ]
  cases h : mapGet c.callbacksAll k with
  | none => simp only [Option.isNone_none, if_true, pure, Except.pure, callAt, logged_nil]
  | some v =>
    simp only [Option.isNone_some, Bool.false_eq_true, if_false, pure, Except.pure, derefPtr, callAt]
    rfl

theorem disp2_end (fuel : Nat) (ev : Gen.Event) (xs : List Int) (c : Gen.Connection) :
    Gen.Connection_dispatch_loop2 fuel ev xs ((xs.length : Int), c) = .ok (.brk ((xs.length : Int), c)) := by
  unfold Gen.Connection_dispatch_loop2
  simp only [not_lt_len_end xs, if_false, pure, Except.pure]

/-- **`dispatch` as translated**: whatever the two visiting orders, the connection is left as it was but for the call
log, which grows by one call per visited key registered for exactly the event's type, then one per visited key
registered for all events — each with this very event. (When nothing at all is registered the early return is taken:
both lists of calls are empty then, so the same formula holds.) -/
theorem dispatch_eq (fuel : Nat) (c : Gen.Connection) (ev : Gen.Event) (order order2 : List Int)
    (hf : order.length < fuel) (hf2 : order2.length < fuel) :
    Gen.Connection_dispatch fuel c ev order order2 =
      .ok (logged c (callsOf (typed c ev.Type') order ev ++ callsOf c.callbacksAll order2 ev)) := by
  unfold Gen.Connection_dispatch
  have h1 := loopM_range (Gen.Connection_dispatch_loop1 fuel ev order)
    (fun c k => logged c (callAt (mapGet (typed c ev.Type') k) ev)) (fun _ => True) order
    (fun pre k suf c hx _ => ⟨hx ▸ disp1_body fuel ev pre suf k c, trivial⟩) (disp1_end fuel ev order) fuel hf c trivial
  rw [foldl_callAt (fun c => typed c ev.Type') (fun _ _ => rfl)] at h1
  have h2 := loopM_range (Gen.Connection_dispatch_loop2 fuel ev order2)
    (fun c k => logged c (callAt (mapGet c.callbacksAll k) ev)) (fun _ => True) order2
    (fun pre k suf c hx _ => ⟨hx ▸ disp2_body fuel ev pre suf k c, trivial⟩) (disp2_end fuel ev order2) fuel hf2
    (logged c (callsOf (typed c ev.Type') order ev)) trivial
  rw [foldl_callAt (fun c => c.callbacksAll) (fun _ _ => rfl)] at h2
  by_cases hz : (len (typed c ev.Type') + len c.callbacksAll == (0 : Int)) = true
  · have hz' : (typed c ev.Type').length = 0 ∧ c.callbacksAll.length = 0 := by
      have h0 := beq_iff_eq.mp hz
      rw [len_eq, len_eq] at h0
      omega
    have e1 : typed c ev.Type' = [] := List.length_eq_zero_iff.mp hz'.1
    have e2 : c.callbacksAll = [] := List.length_eq_zero_iff.mp hz'.2
    have hz2 : (len ((mapGet c.callbacks ev.Type').getD []) + len c.callbacksAll == (0 : Int)) = true := hz
    simp only [hz2, if_true, pure, Except.pure]
    rw [e1, e2, callsOf_empty_map, callsOf_empty_map, List.append_nil, logged_nil]
  · have hz2 : (len ((mapGet c.callbacks ev.Type').getD []) + len c.callbacksAll == (0 : Int)) = false :=
      Bool.eq_false_iff.mpr hz
    simp only [hz2, Bool.false_eq_true, if_false, bind, Except.bind, h1, h2, pure, Except.pure, logged_logged]
    rfl

theorem addSubscriberToAll_eq (fuel : Nat) (c : Gen.Connection) (cb : Nat) :
    Gen.Connection_addSubscriberToAll fuel c cb =
      .ok (c.callbackID, { c with callbacksAll := mapPut c.callbacksAll c.callbackID cb, callbackID := c.callbackID + 1 }) := by
  unfold Gen.Connection_addSubscriberToAll
  rfl

theorem addSubscriber_eq (fuel : Nat) (c : Gen.Connection) (event : Bytes) (cb : Nat) :
    Gen.Connection_addSubscriber fuel c event cb =
      .ok ((event, c.callbackID),
        { c with callbacks := mapPut c.callbacks event (mapPut (typed c event) c.callbackID cb), callbackID := c.callbackID + 1 }) := by
  unfold Gen.Connection_addSubscriber
  cases h : mapGet c.callbacks event with
  | none =>
    have hp : mapGet (mapPut c.callbacks event []) event = some ([] : List (Int × Nat)) := get_put_self _ _ _
    simp only [h, Option.isSome_none, Bool.not_false, if_true, mapInner, hp, bind, Except.bind, pure, Except.pure]
    have : typed c event = [] := by rw [typed, inner, h]; rfl
    rw [this, put_put_self]
  | some x =>
    simp only [h, Option.isSome_some, Bool.not_true, Bool.false_eq_true, if_false, mapInner, bind, Except.bind, pure, Except.pure]
    have : typed c event = x := by rw [typed, inner, h]; rfl
    rw [this]

theorem removeFromAll_eq (fuel : Nat) (c : Gen.Connection) (id : Int) :
    Gen.Connection_removeFromAll fuel c id = .ok { c with callbacksAll := mapDel c.callbacksAll id } := by
  unfold Gen.Connection_removeFromAll
  rfl

/-- what the remover of a typed subscription does to the registry -/
def removeTypedSpec (cbs : List (Bytes × List (Int × Nat))) (event : Bytes) (id : Int) : List (Bytes × List (Int × Nat)) :=
  let m := mapDelIn cbs event id
  if (inner m event).length = 0 then mapDel m event else m

theorem removeFromType_eq (fuel : Nat) (c : Gen.Connection) (event : Bytes) (id : Int) :
    Gen.Connection_removeFromType fuel c event id = .ok { c with callbacks := removeTypedSpec c.callbacks event id } := by
  unfold Gen.Connection_removeFromType removeTypedSpec
  by_cases hl : (inner (mapDelIn c.callbacks event id) event).length = 0
  · have ht : (len (inner (mapDelIn c.callbacks event id) event) == (0 : Int)) = true :=
      (natCast_beq _ 0).trans (beq_iff_eq.mpr hl)
    simp only [if_pos hl]
    exact if_pos ht
  · have ht : ¬ (len (inner (mapDelIn c.callbacks event id) event) == (0 : Int)) = true :=
      fun h => hl (beq_iff_eq.mp ((natCast_beq _ 0).symm.trans h))
    simp only [if_neg hl]
    exact if_neg ht

/-- dropping the emptied inner map changes nothing for a reader: no entry reads as empty -/
theorem inner_removeTyped (cbs : List (Bytes × List (Int × Nat))) (event ty : Bytes) (id : Int) :
    inner (removeTypedSpec cbs event id) ty = if ty = event then mapDel (inner cbs event) id else inner cbs ty := by
  unfold removeTypedSpec
  dsimp only
  by_cases ht : ty = event
  · subst ht
    rw [if_pos rfl]
    split
    · rename_i hl
      rw [inner_delIn_self] at hl
      rw [inner_del_self, List.length_eq_zero_iff.mp hl]
    · exact inner_delIn_self _ _ _
  · rw [if_neg ht]
    split
    · rw [inner_del_other _ _ _ ht, inner_delIn_other _ _ _ _ ht]
    · exact inner_delIn_other _ _ _ _ ht

/-- the connection after `addSubscriber event cb` -/
def afterSub (c : Gen.Connection) (event : Bytes) (cb : Nat) : Gen.Connection :=
  { c with callbacks := mapPut c.callbacks event (mapPut (typed c event) c.callbackID cb), callbackID := c.callbackID + 1 }

/-- … after `addSubscriberToAll cb` -/
def afterSubAll (c : Gen.Connection) (cb : Nat) : Gen.Connection :=
  { c with callbacksAll := mapPut c.callbacksAll c.callbackID cb, callbackID := c.callbackID + 1 }

/-- every id in use is below the counter: the next id is one nobody holds -/
def Fresh (c : Gen.Connection) : Prop :=
  (∀ ty k, (mapGet (typed c ty) k).isSome → k < c.callbackID) ∧ (∀ k, (mapGet c.callbacksAll k).isSome → k < c.callbackID)

theorem sub_self (c : Gen.Connection) (event : Bytes) (cb : Nat) :
    mapGet (typed (afterSub c event cb) event) c.callbackID = some cb := by
  show mapGet (inner (mapPut c.callbacks event _) event) c.callbackID = some cb
  rw [inner_put_self, get_put_self]

theorem sub_other (c : Gen.Connection) (event : Bytes) (cb : Nat) (ty : Bytes) (k : Int)
    (h : ty ≠ event ∨ k ≠ c.callbackID) :
    mapGet (typed (afterSub c event cb) ty) k = mapGet (typed c ty) k := by
  show mapGet (inner (mapPut c.callbacks event _) ty) k = mapGet (inner c.callbacks ty) k
  by_cases ht : ty = event
  · subst ht
    have hk : k ≠ c.callbackID := by cases h with | inl h => exact absurd rfl h | inr h => exact h
    rw [inner_put_self, get_put_other _ _ _ _ hk]
  · rw [inner_put_other _ _ _ _ ht]

theorem subAll_self (c : Gen.Connection) (cb : Nat) : mapGet (afterSubAll c cb).callbacksAll c.callbackID = some cb := by
  show mapGet (mapPut c.callbacksAll c.callbackID cb) c.callbackID = some cb
  rw [get_put_self]

theorem subAll_other (c : Gen.Connection) (cb : Nat) (k : Int) (h : k ≠ c.callbackID) :
    mapGet (afterSubAll c cb).callbacksAll k = mapGet c.callbacksAll k := by
  show mapGet (mapPut c.callbacksAll c.callbackID cb) k = _
  rw [get_put_other _ _ _ _ h]

/-- the connection after the remover of a typed subscription -/
def afterUnsub (c : Gen.Connection) (event : Bytes) (id : Int) : Gen.Connection :=
  { c with callbacks := removeTypedSpec c.callbacks event id }

def afterUnsubAll (c : Gen.Connection) (id : Int) : Gen.Connection := { c with callbacksAll := mapDel c.callbacksAll id }

theorem unsub_lookup (c : Gen.Connection) (event : Bytes) (id : Int) (ty : Bytes) (k : Int) :
    mapGet (typed (afterUnsub c event id) ty) k = if ty = event ∧ k = id then none else mapGet (typed c ty) k := by
  show mapGet (inner (removeTypedSpec c.callbacks event id) ty) k = _
  rw [inner_removeTyped]
  by_cases ht : ty = event
  · subst ht
    rw [if_pos rfl]
    by_cases hk : k = id
    · rw [if_pos ⟨rfl, hk⟩, hk, get_del_self]
    · rw [if_neg (fun h => hk h.2), get_del_other _ _ _ hk]
  · rw [if_neg ht, if_neg (fun h => ht h.1)]

theorem unsubAll_lookup (c : Gen.Connection) (id k : Int) :
    mapGet (afterUnsubAll c id).callbacksAll k = if k = id then none else mapGet c.callbacksAll k := by
  show mapGet (mapDel c.callbacksAll id) k = _
  by_cases hk : k = id
  · rw [if_pos hk, hk, get_del_self]
  · rw [if_neg hk, get_del_other _ _ _ hk]

/-! A subscription's filter is `some ty` (events of type `ty`) or `none` (all events). `slot c f k` is what a reader finds
under id `k` for filter `f`; subscribing and removing then have one law each, whatever the filter. -/

def slot (c : Gen.Connection) : Option Bytes → Int → Option Nat
  | some ty, k => mapGet (typed c ty) k
  | none, k => mapGet c.callbacksAll k

def afterAdd (c : Gen.Connection) : Option Bytes → Nat → Gen.Connection
  | some ev, cb => afterSub c ev cb
  | none, cb => afterSubAll c cb

def afterDel (c : Gen.Connection) : Option Bytes → Int → Gen.Connection
  | some ev, id => afterUnsub c ev id
  | none, id => afterUnsubAll c id

theorem afterAdd_callbackID (c : Gen.Connection) (f : Option Bytes) (cb : Nat) :
    (afterAdd c f cb).callbackID = c.callbackID + 1 := by cases f <;> rfl

theorem afterDel_callbackID (c : Gen.Connection) (f : Option Bytes) (id : Int) :
    (afterDel c f id).callbackID = c.callbackID := by cases f <;> rfl

theorem slot_afterAdd (c : Gen.Connection) (f : Option Bytes) (cb : Nat) (g : Option Bytes) (k : Int) :
    slot (afterAdd c f cb) g k = if g = f ∧ k = c.callbackID then some cb else slot c g k := by
  cases f with
  | none => cases g with
    | none =>
      by_cases hk : k = c.callbackID
      · rw [if_pos ⟨rfl, hk⟩, hk]; exact subAll_self c cb
      · rw [if_neg (fun h => hk h.2)]; exact subAll_other c cb k hk
    | some ty => exact (if_neg (fun h => nomatch h.1)).symm
  | some ev => cases g with
    | none => exact (if_neg (fun h => nomatch h.1)).symm
    | some ty =>
      by_cases h : ty = ev ∧ k = c.callbackID
      · rw [if_pos ⟨congrArg some h.1, h.2⟩, h.1, h.2]; exact sub_self c ev cb
      · rw [if_neg (fun h' => h ⟨Option.some.inj h'.1, h'.2⟩)]
        exact sub_other c ev cb ty k (Classical.not_and_iff_not_or_not.mp h)

theorem slot_afterDel (c : Gen.Connection) (f : Option Bytes) (id : Int) (g : Option Bytes) (k : Int) :
    slot (afterDel c f id) g k = if g = f ∧ k = id then none else slot c g k := by
  cases f with
  | none => cases g with
    | none =>
      show mapGet (afterUnsubAll c id).callbacksAll k = _
      rw [unsubAll_lookup]
      by_cases hk : k = id
      · rw [if_pos hk, if_pos ⟨rfl, hk⟩]
      · rw [if_neg hk, if_neg (fun h => hk h.2)]; rfl
    | some ty => exact (if_neg (fun h => nomatch h.1)).symm
  | some ev => cases g with
    | none => exact (if_neg (fun h => nomatch h.1)).symm
    | some ty =>
      show mapGet (typed (afterUnsub c ev id) ty) k = _
      rw [unsub_lookup]
      by_cases h : ty = ev ∧ k = id
      · rw [if_pos h, if_pos ⟨congrArg some h.1, h.2⟩]
      · rw [if_neg h, if_neg (fun h' => h ⟨Option.some.inj h'.1, h'.2⟩)]; rfl

theorem fresh_iff (c : Gen.Connection) : Fresh c ↔ ∀ f k, (slot c f k).isSome → k < c.callbackID :=
  ⟨fun h f k => by cases f with | none => exact h.2 k | some ty => exact h.1 ty k,
   fun h => ⟨fun ty k => h (some ty) k, fun k => h none k⟩⟩

theorem fresh_afterAdd (c : Gen.Connection) (f : Option Bytes) (cb : Nat) (h : Fresh c) : Fresh (afterAdd c f cb) := by
  rw [fresh_iff] at h ⊢
  intro g k hs
  rw [afterAdd_callbackID]
  rw [slot_afterAdd] at hs
  by_cases he : g = f ∧ k = c.callbackID
  · have := he.2; omega
  · rw [if_neg he] at hs
    have := h g k hs; omega

theorem fresh_afterDel (c : Gen.Connection) (f : Option Bytes) (id : Int) (h : Fresh c) : Fresh (afterDel c f id) := by
  rw [fresh_iff] at h ⊢
  intro g k hs
  rw [afterDel_callbackID]
  rw [slot_afterDel] at hs
  by_cases he : g = f ∧ k = id
  · rw [if_pos he] at hs; cases hs
  · rw [if_neg he] at hs; exact h g k hs

theorem slot_free (c : Gen.Connection) (f : Option Bytes) (h : Fresh c) : slot c f c.callbackID = none := by
  cases hg : slot c f c.callbackID with
  | none => rfl
  | some v => exact absurd ((fresh_iff c).mp h f c.callbackID (by rw [hg]; rfl)) (Int.lt_irrefl _)

theorem sub_fresh (c : Gen.Connection) (event : Bytes) (cb : Nat) (h : Fresh c) : Fresh (afterSub c event cb) :=
  fresh_afterAdd c (some event) cb h

theorem sub_slot_free (c : Gen.Connection) (event : Bytes) (h : Fresh c) : mapGet (typed c event) c.callbackID = none :=
  slot_free c (some event) h

theorem subAll_fresh (c : Gen.Connection) (cb : Nat) (h : Fresh c) : Fresh (afterSubAll c cb) :=
  fresh_afterAdd c none cb h

theorem subAll_slot_free (c : Gen.Connection) (h : Fresh c) : mapGet c.callbacksAll c.callbackID = none :=
  slot_free c none h

theorem unsub_fresh (c : Gen.Connection) (event : Bytes) (id : Int) (h : Fresh c) : Fresh (afterUnsub c event id) :=
  fresh_afterDel c (some event) id h

theorem unsubAll_fresh (c : Gen.Connection) (id : Int) (h : Fresh c) : Fresh (afterUnsubAll c id) :=
  fresh_afterDel c none id h

theorem mem_callsOf (m : List (Int × Nat)) (order : List Int) (ev : Gen.Event) (x : Nat × Gen.Event) (h : x ∈ callsOf m order ev) :
    x.2 = ev ∧ ∃ k ∈ order, mapGet m k = some x.1 := by
  unfold callsOf at h
  simp only [List.mem_map, List.mem_filterMap] at h
  obtain ⟨cb, ⟨k, hk, hg⟩, rfl⟩ := h
  exact ⟨rfl, k, hk, hg⟩

theorem callsOf_length (m : List (Int × Nat)) (order : List Int) (ev : Gen.Event) :
    (callsOf m order ev).length = (order.filter fun k => (mapGet m k).isSome).length := by
  induction order with
  | nil => rfl
  | cons k ks ih =>
    rw [callsOf_cons, List.filter_cons]
    cases h : mapGet m k <;> simp [h, ih, callAt]

end GoSSE.GenEquiv
