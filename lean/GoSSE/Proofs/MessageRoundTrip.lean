import GoSSE.Proofs.MessageBuild
import GoSSE.Proofs.ParserFP
/-!
Helper lemmas for C15's round trip: `UnmarshalText` run over the wire form of a well-formed
message reads back its lines one by one.
-/
namespace GoSSE.Proofs
open GoSSE GoSSE.Spec GoSSE.Model

/-- unset fields are the zero field (true of every value the routes of C14 produce) -/
structure Canon (m : Message) : Prop where
  id : m.id.set = false → m.id = {}
  typ : m.typ.set = false → m.typ = {}

theorem canon_appendText (m : Message) (hm : Canon m) (ic : Bool) (s : List Bytes) : Canon (m.appendText ic s) := by
  have hf := appendText_fields m ic s
  exact ⟨fun h => hf.1.trans (hm.id (hf.1 ▸ h)), fun h => hf.2.1.trans (hm.typ (hf.2.1 ▸ h))⟩

theorem canon_apply (m : Message) (hm : Canon m) (op : BuildOp) : Canon (m.apply op) := by
  have hn : ∀ v, (newID v).1.set = false → (newID v).1 = {} := by
    intro v
    by_cases h : NlFree v
    · rw [newID_single v h]; exact fun h' => nomatch h'
    · rw [newID_multi v h]; exact fun _ => rfl
  cases op with
  | appendData s | appendComment s => exact canon_appendText m hm _ s
  | setID v => exact ⟨hn v, hm.typ⟩
  | setType v => exact ⟨hm.id, hn v⟩
  | setRetry d => exact ⟨hm.id, hm.typ⟩

theorem canon_build (ops : List BuildOp) (hv : ∀ op ∈ ops, BuildOp.Valid op) : Canon (build ops) :=
  build_induction ⟨fun _ => rfl, fun _ => rfl⟩ (fun m op h _ => canon_apply m h op) ops hv

theorem scanSegment_field (name v : Bytes) (hc : 58 ∉ name) :
    scanSegment true (name ++ 58 :: 32 :: v) =
      match getFieldName name with
      | some n => some ⟨n, v⟩
      | none => if name.isEmpty then some ⟨.comment, v⟩ else none := by
  rw [scanSegment_colon true name _ (indexByte_colon name _ hc), Bool.and_true]
  rfl

theorem scan_id (v : Bytes) : scanSegment true (fieldBytesID ++ v) = some ⟨.id, v⟩ :=
  scanSegment_field fId v (by decide)
theorem scan_event (v : Bytes) : scanSegment true (fieldBytesEvent ++ v) = some ⟨.event, v⟩ :=
  scanSegment_field fEvent v (by decide)
theorem scan_retry (v : Bytes) : scanSegment true (fieldBytesRetry ++ v) = some ⟨.retry, v⟩ :=
  scanSegment_field fRetry v (by decide)
theorem scan_data (v : Bytes) : scanSegment true (fieldBytesData ++ v) = some ⟨.data, v⟩ :=
  scanSegment_field fData v (by decide)
theorem scan_comment (v : Bytes) : scanSegment true (fieldBytesComment ++ v) = some ⟨.comment, v⟩ :=
  scanSegment_field [] v (by decide)
theorem scan_blank : scanSegment true [] = some ⟨.none, []⟩ := by decide

theorem loop_step (fp : FP) (l rest : Bytes) (fld : Field) (hd : fp.data = l ++ 10 :: rest)
    (hk : fp.keepComments = true) (hl : NlFree l) (hs : scanSegment true l = some fld) :
    FP.next (fp.data.length + 1) fp = (some fld, { fp with started := true, data := rest }) := by
  rw [FP_next_term _ fp l [10] rest (by rw [hd, List.append_assoc]; rfl) hl (.inl rfl), hk, hs]

theorem wrap64_of_le_maxInt64 (x : Int) (h0 : 0 ≤ x) (h1 : x ≤ (maxInt64 : Int)) : wrap64 x = x := by
  unfold wrap64; unfold maxInt64 at h1; omega

/-- the loop, finding the line `l` next, applies `g` to the receiver and goes on behind it -/
def Reads (l : Bytes) (g : Message → Message) : Prop :=
  NlFree l ∧ ∀ (n : Nat) (fp : FP) (acc : Message) (rest : Bytes), fp.keepComments = true → fp.data = l ++ 10 :: rest →
    unmarshalLoop (n + 1) fp acc = unmarshalLoop n { fp with started := true, data := rest } (g acc)

theorem reads_id (v : Bytes) (hv : NlFree v) (hz : v.contains 0 = false) :
    Reads (fieldBytesID ++ v) fun a => { a with id := { value := v, set := true } } := by
  have hl := nlFree_append.2 ⟨fieldName_nlFree fieldBytesID (by simp [fieldNames]), hv⟩
  refine ⟨hl, fun n fp acc rest hk hd => ?_⟩
  rw [unmarshalLoop, loop_step fp _ rest _ hd hk hl (scan_id v)]
  simp only [hz, Bool.false_eq_true, if_false]

theorem reads_event (v : Bytes) (hv : NlFree v) :
    Reads (fieldBytesEvent ++ v) fun a => { a with typ := { value := v, set := true } } := by
  have hl := nlFree_append.2 ⟨fieldName_nlFree fieldBytesEvent (by simp [fieldNames]), hv⟩
  refine ⟨hl, fun n fp acc rest hk hd => ?_⟩
  rw [unmarshalLoop, loop_step fp _ rest _ hd hk hl (scan_event v)]

theorem reads_retry (ds : Bytes) (hne : ds ≠ []) (hdig : ds.all isDigit = true)
    (hle : digitsVal ds * 1000000 ≤ maxInt64) :
    Reads (fieldBytesRetry ++ ds) fun a => { a with retry := (digitsVal ds : Int) * 1000000 } := by
  have hl := nlFree_append.2 ⟨fieldName_nlFree fieldBytesRetry (by simp [fieldNames]), digits_nlFree ds hdig⟩
  refine ⟨hl, fun n fp acc rest hk hd => ?_⟩
  rw [unmarshalLoop, loop_step fp _ rest _ hd hk hl (scan_retry ds)]
  have hle' : digitsVal ds ≤ maxInt64 := by omega
  simp only [hdig, Bool.not_true, Bool.false_eq_true, if_false, parseInt_digits ds hdig, List.isEmpty_iff, hne, hle', if_true]
  rw [wrap64_of_le_maxInt64 _ (by omega) (by omega)]

theorem reads_chunk (c : Chunk) (hc : NlFree c.content) :
    Reads (chunkLine c) fun a => { a with chunks := a.chunks ++ [c] } := by
  have hl : NlFree (chunkLine c) :=
    nlFree_append.2 ⟨fieldName_nlFree _ (by cases c.isComment <;> simp [fieldNames]), hc⟩
  refine ⟨hl, fun n fp acc rest hk hd => ?_⟩
  cases c with
  | mk content isComment =>
    cases isComment
    · rw [unmarshalLoop, loop_step fp _ rest _ hd hk hl (scan_data content)]
    · rw [unmarshalLoop, loop_step fp _ rest _ hd hk hl (scan_comment content)]

/-- over the lines `ls` and the blank line closing them, the loop (with enough fuel) applies `g` to the
receiver and stops behind the blank line -/
def Decodes (ls : List Bytes) (g : Message → Message) : Prop :=
  ∀ (n : Nat) (fp : FP) (acc : Message) (tail : Bytes), fp.keepComments = true → fp.data = term ls ++ 10 :: tail →
    ls.length < n → unmarshalLoop n fp acc = (g acc, { fp with started := true, data := tail }, .nil)

theorem Decodes.congr {ls : List Bytes} {g g' : Message → Message} (h : Decodes ls g) (e : ∀ a, g a = g' a) :
    Decodes ls g' :=
  fun n fp acc tail hk hd hn => by rw [← e]; exact h n fp acc tail hk hd hn

theorem decodes_nil : Decodes [] id := by
  intro n fp acc tail hk hd hn
  cases n with
  | zero => omega
  | succ n => rw [unmarshalLoop, loop_step fp [] tail _ hd hk nlFree_nil scan_blank]; rfl

theorem decodes_cons {l : Bytes} {ls : List Bytes} {g g' : Message → Message} (hr : Reads l g) (hd : Decodes ls g') :
    Decodes (l :: ls) fun a => g' (g a) := by
  intro n fp acc tail hk hdata hn
  cases n with
  | zero => omega
  | succ n =>
    have e : fp.data = l ++ 10 :: (term ls ++ 10 :: tail) := by rw [hdata]; simp [term]
    rw [hr.2 n fp acc _ hk e]
    exact hd n _ _ tail hk rfl (by simpa using hn)

theorem decodes_chunks (cs : List Chunk) (hcs : ∀ c ∈ cs, NlFree c.content) {ls : List Bytes} {g' : Message → Message}
    (hd : Decodes ls g') : Decodes (cs.map chunkLine ++ ls) fun a => g' { a with chunks := a.chunks ++ cs } := by
  induction cs generalizing g' with
  | nil => exact hd.congr fun a => by simp
  | cons c cs ih =>
    refine (decodes_cons (reads_chunk c (hcs c List.mem_cons_self))
      (ih (fun x hx => hcs x (List.mem_cons_of_mem _ hx)) hd)).congr fun a => ?_
    simp [List.append_assoc]

theorem decodes_id (m : Message) (hv : m.id.set = true → NlFree m.id.value) (hnul : m.id.set = true → m.id.value.contains 0 = false)
    {ls : List Bytes} {g' : Message → Message} (hd : Decodes ls g') :
    Decodes ((if m.id.set then [fieldBytesID ++ m.id.value] else []) ++ ls)
      fun a => g' { a with id := if m.id.set then { value := m.id.value, set := true } else a.id } := by
  by_cases h : m.id.set = true
  · rw [if_pos h]
    exact (decodes_cons (reads_id _ (hv h) (hnul h)) hd).congr fun a => by rw [if_pos h]
  · rw [if_neg h]
    exact hd.congr fun a => by rw [if_neg h]

theorem decodes_typ (m : Message) (hv : m.typ.set = true → NlFree m.typ.value) {ls : List Bytes} {g' : Message → Message} (hd : Decodes ls g') :
    Decodes ((if m.typ.set then [fieldBytesEvent ++ m.typ.value] else []) ++ ls)
      fun a => g' { a with typ := if m.typ.set then { value := m.typ.value, set := true } else a.typ } := by
  by_cases h : m.typ.set = true
  · rw [if_pos h]
    exact (decodes_cons (reads_event _ (hv h)) hd).congr fun a => by rw [if_pos h]
  · rw [if_neg h]
    exact hd.congr fun a => by rw [if_neg h]

theorem decodes_retry (m : Message) (hr : m.retry ≤ (maxInt64 : Int)) {ls : List Bytes} {g' : Message → Message}
    (hd : Decodes ls g') :
    Decodes ((if m.millis ≤ 0 then [] else [fieldBytesRetry ++ (retryDigits m.millis.toNat).getD []]) ++ ls)
      fun a => g' { a with retry := if m.millis ≤ 0 then a.retry else m.millis * 1000000 } := by
  by_cases h : m.millis ≤ 0
  · rw [if_pos h]
    exact hd.congr fun a => by rw [if_pos h]
  · rw [if_neg h]
    have mf := millis_facts m hr h
    obtain ⟨ds, hds, hdig, hv, d, t, hdt, _⟩ := retryDigits_spec m.millis.toNat mf.1 (by omega)
    rw [hds, Option.getD_some]
    refine (decodes_cons (reads_retry ds (by rw [hdt]; simp) hdig (by rw [hv]; unfold maxInt64; omega)) hd).congr fun a => ?_
    rw [if_neg h, hv, mf.2.2]

/-- what reading back the lines of `m` makes of the receiver `a` -/
def readBack (m a : Message) : Message :=
  { chunks := a.chunks ++ m.chunks,
    id := if m.id.set then { value := m.id.value, set := true } else a.id,
    typ := if m.typ.set then { value := m.typ.value, set := true } else a.typ,
    retry := if m.millis ≤ 0 then a.retry else m.millis * 1000000 }

theorem decodes_lines (m : Message) (hm : FieldsOK m) (hr : m.retry ≤ (maxInt64 : Int))
    (hnul : m.id.set = true → m.id.value.contains 0 = false) : Decodes (lines m) (readBack m) := by
  have h := decodes_id m hm.id hnul (decodes_typ m hm.typ (decodes_retry m hr (decodes_chunks m.chunks hm.chunks decodes_nil)))
  simp only [List.append_nil, ← List.append_assoc] at h
  exact h

theorem field_canon (f : MField) (h : f.set = false → f = {}) :
    (if f.set then ({ value := f.value, set := true } : MField) else {}) = f := by
  cases hs : f.set with
  | false => rw [if_neg (by simp)]; exact (h hs).symm
  | true => rw [if_pos rfl]; cases f; cases hs; rfl

theorem readBack_empty (m : Message) (hc : Canon m) : readBack m {} = normalise m := by
  simp only [readBack, List.nil_append]
  rw [field_canon _ hc.id, field_canon _ hc.typ]
  rfl

theorem normaliseRetry_beq_zero (m : Message) : (normaliseRetry m.retry == 0) = !decide (m.millis > 0) := by
  unfold normaliseRetry Message.millis
  by_cases h : Int.tdiv m.retry 1000000 ≤ 0
  · rw [if_pos h, decide_eq_false (by omega)]; rfl
  · rw [if_neg h, decide_eq_true (by omega)]; simp; omega

/-- `UnmarshalText`'s final emptiness test, on a normalised message, asks whether there is no field -/
theorem emptyTest_normalise (m : Message) :
    ((normalise m).chunks.isEmpty && !(normalise m).typ.set && (normalise m).retry == 0 && !(normalise m).id.set) = !hasField m := by
  have deMorgan : (!hasField m) = (!m.id.set && !m.typ.set && !decide (m.millis > 0) && m.chunks.isEmpty) := by
    simp only [hasField, Bool.not_or, Bool.not_not]
  rw [deMorgan]
  show (m.chunks.isEmpty && !m.typ.set && normaliseRetry m.retry == 0 && !m.id.set) = _
  rw [normaliseRetry_beq_zero]
  -- the same four tests in another order
  simp only [Bool.and_comm, Bool.and_left_comm, Bool.and_assoc]

/-- `UnmarshalText` over the wire form of a message with single-line fields, an `int64` retry, at least one
field and a NUL-free ID reproduces the message, retry rounded down to whole milliseconds. -/
theorem unmarshal_encode (m : Message) (hm : FieldsOK m) (hc : Canon m) (hr : m.retry ≤ (maxInt64 : Int))
    (hf : hasField m = true) (hnul : m.id.set = true → m.id.value.contains 0 = false) :
    Message.unmarshalText m.encode = (normalise m, .nil) := by
  have hne : (lines m).isEmpty = false := by rw [lines_isEmpty, hf]; rfl
  have henc : m.encode = term (lines m) ++ 10 :: [] := by
    rw [encode_eq, msgLines, hne, if_neg (by simp), term_append]; rfl
  have hbom : (({ data := m.encode, keepComments := true } : FP).setRemoveBOM true) =
      { data := m.encode, keepComments := true, removeBOM := true } := by
    have := bom_encode_append m [] rfl
    rw [List.append_nil] at this
    simp [FP.setRemoveBOM, FP.doRemoveBOM, this]
  have hfuel : (lines m).length < m.encode.length + 1 := by
    have := length_le_term (lines m)
    rw [henc, List.length_append]; omega
  have hnonempty : ((normalise m).chunks.isEmpty && !(normalise m).typ.set && (normalise m).retry == 0 && !(normalise m).id.set) = false := by
    rw [emptyTest_normalise, hf]; rfl
  have hrun : unmarshalLoop (m.encode.length + 1) { data := m.encode, keepComments := true, removeBOM := true } {} =
      (normalise m, { data := [], started := true, keepComments := true, removeBOM := true }, .nil) := by
    rw [← readBack_empty m hc]; exact decodes_lines m hm hr hnul _ _ {} [] rfl henc hfuel
  have hnil : (UErr.nil != UErr.nil) = false := rfl
  simp only [Message.unmarshalText, hbom, hrun, hnil, hnonempty, Bool.false_eq_true, if_false, Bool.or_false]

end GoSSE.Proofs
