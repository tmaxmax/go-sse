import GoSSE.Proofs.ClientBackoff
/-!
Helper lemmas about `doConnect` and the `Connect` loop, shared by C10, C11 and C12: what one
attempt contributes to the trace and how it changes the connection and the controller, plus the
trace predicates the property theorems are stated with.
-/
namespace GoSSE.Proofs.ClientConnect
open GoSSE GoSSE.Spec GoSSE.Spec.Client GoSSE.Model GoSSE.Model.Client GoSSE.Proofs.ClientBackoff

def attOf (c : Conn) : TItem := .attempt c.req.header c.req.body c.req.getBodyCalls

/-- the events and retry fields a stream attempt reports -/
def outsOf (c : Conn) (src : Source) : List Out := (implRun true c.lastEventID src c.buf).1

theorem doConnect_resetFailed (cfg : Cfg) (c : Conn) (ctl : Ctl) (a : Attempt) (done : Bool) (e : ErrV)
    (h : (resetRequest c).2 = some e) :
    doConnect cfg c ctl a done = ⟨false, .wrapped .resetFailed e, (resetRequest c).1, ctl, []⟩ := by
  simp [doConnect, h]

def trErr (isCtx : Bool) : ErrV := if isCtx then .ctx else .transport

def strErr (c : Conn) (src : Source) (ic : Bool) : ErrV := readErr (implRun true c.lastEventID src c.buf).2.1 ic

theorem doConnect_transport (cfg : Cfg) (c : Conn) (ctl : Ctl) (a : Attempt) (done : Bool) (c' : Conn) (isCtx : Bool)
    (h : resetRequest c = (c', none)) (ho : a.out = .transport isCtx) :
    doConnect cfg c ctl a done =
      if errorsIs (trErr isCtx) (ctxErr (done || a.cancelDuring))
      then ⟨false, .bare (trErr isCtx), c', ctl, [attOf c']⟩
      else ⟨true, .wrapped .connFailed (trErr isCtx), c', ctl, [attOf c']⟩ := by
  simp only [doConnect, h, ho, attOf, trErr]
  cases isCtx <;> rfl

theorem doConnect_rejected (cfg : Cfg) (c : Conn) (ctl : Ctl) (a : Attempt) (done : Bool) (c' : Conn)
    (h : resetRequest c = (c', none)) (ho : a.out = .rejected) :
    doConnect cfg c ctl a done = ⟨false, .wrapped .validation .validator, c', ctl, [attOf c']⟩ := by
  simp [doConnect, h, ho, attOf]

theorem doConnect_stream (cfg : Cfg) (c : Conn) (ctl : Ctl) (a : Attempt) (done : Bool) (c' : Conn) (src : Source) (ic : Bool)
    (h : resetRequest c = (c', none)) (ho : a.out = .stream src ic) :
    doConnect cfg c ctl a done =
      if errorsIs (strErr c' src ic) (ctxErr (done || a.cancelDuring))
      then ⟨false, .bare (strErr c' src ic), { c' with lastEventID := lastDispatched c'.lastEventID (outsOf c' src) },
        applyRetries cfg ctl (outsOf c' src) a.tReset, [attOf c', .connected (outsOf c' src)]⟩
      else ⟨true, .wrapped .lost (strErr c' src ic), { c' with lastEventID := lastDispatched c'.lastEventID (outsOf c' src) },
        applyRetries cfg ctl (outsOf c' src) a.tReset, [attOf c', .connected (outsOf c' src)]⟩ := by
  simp only [doConnect, h, ho]
  rfl

theorem doConnect_items (cfg : Cfg) (c : Conn) (ctl : Ctl) (a : Attempt) (done : Bool) :
    (doConnect cfg c ctl a done).items = [] ∨
    ∃ c', resetRequest c = (c', none) ∧
      ((doConnect cfg c ctl a done).items = [attOf c'] ∨
       ∃ src ic, a.out = .stream src ic ∧ (doConnect cfg c ctl a done).items = [attOf c', .connected (outsOf c' src)]) := by
  rcases h : resetRequest c with ⟨c', _ | e⟩
  · refine Or.inr ⟨c', rfl, ?_⟩
    cases ho : a.out with
    | transport isCtx => rw [doConnect_transport cfg c ctl a done c' isCtx h ho]; exact Or.inl (by split <;> rfl)
    | rejected => rw [doConnect_rejected cfg c ctl a done c' h ho]; exact Or.inl rfl
    | stream src ic => rw [doConnect_stream cfg c ctl a done c' src ic h ho]; exact Or.inr ⟨src, ic, rfl, by split <;> rfl⟩
  · exact Or.inl (by rw [doConnect_resetFailed cfg c ctl a done e (by rw [h])])

theorem doConnect_retry (cfg : Cfg) (c : Conn) (ctl : Ctl) (a : Attempt) (done : Bool)
    (hs : (doConnect cfg c ctl a done).shouldRetry = true) :
    ∃ c', resetRequest c = (c', none) ∧
    ((∃ isCtx, a.out = .transport isCtx ∧
        doConnect cfg c ctl a done = ⟨true, .wrapped .connFailed (trErr isCtx), c', ctl, [attOf c']⟩) ∨
     (∃ src ic, a.out = .stream src ic ∧ doConnect cfg c ctl a done =
        ⟨true, .wrapped .lost (strErr c' src ic), { c' with lastEventID := lastDispatched c'.lastEventID (outsOf c' src) },
          applyRetries cfg ctl (outsOf c' src) a.tReset, [attOf c', .connected (outsOf c' src)]⟩)) := by
  rcases h : resetRequest c with ⟨c', _ | e⟩
  · refine ⟨c', rfl, ?_⟩
    cases ho : a.out with
    | transport isCtx =>
      rw [doConnect_transport cfg c ctl a done c' isCtx h ho] at hs ⊢
      split at hs
      · cases hs
      · rename_i hn; exact Or.inl ⟨isCtx, rfl, if_neg hn⟩
    | rejected => rw [doConnect_rejected cfg c ctl a done c' h ho] at hs; cases hs
    | stream src ic =>
      rw [doConnect_stream cfg c ctl a done c' src ic h ho] at hs ⊢
      split at hs
      · cases hs
      · rename_i hn; exact Or.inr ⟨src, ic, rfl, if_neg hn⟩
  · rw [doConnect_resetFailed cfg c ctl a done e (by rw [h])] at hs; cases hs

theorem connectLoop_nil (cfg : Cfg) (fl : Floats) (c : Conn) (ctl : Ctl) (done : Bool) :
    connectLoop cfg fl [] c ctl done = ⟨[], none, c⟩ := rfl

theorem connectLoop_cons (cfg : Cfg) (fl : Floats) (a : Attempt) (rest : List Attempt) (c : Conn) (ctl : Ctl) (done : Bool)
    (r : DoRes) (hr : doConnect cfg c ctl a done = r) :
    connectLoop cfg fl (a :: rest) c ctl done =
      if done && !a.timerWins then ⟨[], some (.bare .ctx), c⟩
      else if !r.shouldRetry then ⟨r.items, some r.err, r.conn⟩
      else
        match (r.ctl.next cfg fl a.tNext a.draw).2 with
        | none => ⟨r.items, some r.err, r.conn⟩
        | some w =>
          let q := connectLoop cfg fl rest r.conn (r.ctl.next cfg fl a.tNext a.draw).1 (done || a.cancelDuring || a.cancelAfter)
          ⟨r.items ++ TItem.retry r.err w :: q.trace, q.result, q.conn⟩ := by
  subst hr
  rw [connectLoop]
  rfl

theorem connectLoop_cases (cfg : Cfg) (fl : Floats) (a : Attempt) (rest : List Attempt) (c : Conn) (ctl : Ctl) (done : Bool)
    (r : DoRes) (hr : doConnect cfg c ctl a done = r) :
    (done = true ∧ connectLoop cfg fl (a :: rest) c ctl done = ⟨[], some (.bare .ctx), c⟩) ∨
    ((r.shouldRetry = false ∨ (r.ctl.next cfg fl a.tNext a.draw).2 = none) ∧
      connectLoop cfg fl (a :: rest) c ctl done = ⟨r.items, some r.err, r.conn⟩) ∨
    ∃ w q, r.shouldRetry = true ∧ (r.ctl.next cfg fl a.tNext a.draw).2 = some w ∧
      connectLoop cfg fl rest r.conn (r.ctl.next cfg fl a.tNext a.draw).1 (done || a.cancelDuring || a.cancelAfter) = q ∧
      connectLoop cfg fl (a :: rest) c ctl done = ⟨r.items ++ TItem.retry r.err w :: q.trace, q.result, q.conn⟩ := by
  have hq := connectLoop_cons cfg fl a rest c ctl done r hr
  by_cases hsel : (done && !a.timerWins) = true
  · rw [if_pos hsel] at hq
    exact Or.inl ⟨(Bool.and_eq_true _ _ ▸ hsel).1, hq⟩
  · rw [if_neg hsel] at hq
    cases hs : r.shouldRetry with
    | false => rw [hs] at hq; exact Or.inr (Or.inl ⟨Or.inl rfl, hq⟩)
    | true =>
      rw [hs] at hq
      cases hw : (r.ctl.next cfg fl a.tNext a.draw).2 with
      | none => rw [hw] at hq; exact Or.inr (Or.inl ⟨Or.inr rfl, hq⟩)
      | some w => rw [hw] at hq; exact Or.inr (Or.inr ⟨w, _, rfl, rfl, rfl, hq⟩)

/-- The forms the trace of a `Connect` run over the history `h` from connection `c`, controller `ctl` and cancellation
state `done` can have. A `retry` item means `next` granted a wait: the retry limit did not refuse, the wait is
`nextInterval` of the base, and the run goes on with one more retry counted and the base grown. -/
inductive ConnectRun (cfg : Cfg) (fl : Floats) : List Attempt → Conn → Ctl → Bool → List TItem → Prop
  /-- the history is exhausted, the context won the `select`, or the request reset failed -/
  | nil {h c ctl done} : ConnectRun cfg fl h c ctl done []
  /-- the run ends with the attempt made with the reset request `c'` -/
  | lastAttempt {a rest c ctl done c'} (hreset : resetRequest c = (c', none)) :
      ConnectRun cfg fl (a :: rest) c ctl done [attOf c']
  | lastStream {a rest c ctl done c' src ic} (hreset : resetRequest c = (c', none)) (hout : a.out = .stream src ic) :
      ConnectRun cfg fl (a :: rest) c ctl done [attOf c', .connected (outsOf c' src)]
  /-- `Do` failed: the run goes on from `c'` and the controller as it was -/
  | failed {a rest c ctl done c' isCtx q} (hreset : resetRequest c = (c', none)) (hout : a.out = .transport isCtx)
      (hlimit : limitHit cfg ctl = false)
      (hrest : ConnectRun cfg fl rest c' { ctl with numRetries := ctl.numRetries + 1, interval := growI cfg fl ctl.interval }
        (done || a.cancelDuring || a.cancelAfter) q) :
      ConnectRun cfg fl (a :: rest) c ctl done
        (attOf c' :: .retry (.wrapped .connFailed (trErr isCtx)) (nextInterval cfg fl ctl.interval a.draw) :: q)
  /-- the stream was lost: the run goes on with its last ID stored and the controller it left (`applyRetries_eq`) -/
  | lost {a rest c ctl done c' src ic q} (hreset : resetRequest c = (c', none)) (hout : a.out = .stream src ic)
      (hlimit : limitHit cfg { start := a.tReset, interval := retryInterval cfg.initialInterval (outsOf c' src), numRetries := 0 } = false)
      (hrest : ConnectRun cfg fl rest { c' with lastEventID := lastDispatched c'.lastEventID (outsOf c' src) }
        { start := a.tReset, interval := growI cfg fl (retryInterval cfg.initialInterval (outsOf c' src)), numRetries := 1 }
        (done || a.cancelDuring || a.cancelAfter) q) :
      ConnectRun cfg fl (a :: rest) c ctl done
        (attOf c' :: .connected (outsOf c' src) :: .retry (.wrapped .lost (strErr c' src ic))
          (nextInterval cfg fl (retryInterval cfg.initialInterval (outsOf c' src)) a.draw) :: q)

theorem connectLoop_run (cfg : Cfg) (fl : Floats) (h : List Attempt) (c : Conn) (ctl : Ctl) (done : Bool) :
    ConnectRun cfg fl h c ctl done (connectLoop cfg fl h c ctl done).trace := by
  induction h generalizing c ctl done with
  | nil => exact .nil
  | cons a rest ih =>
    rcases connectLoop_cases cfg fl a rest c ctl done _ rfl with ⟨_, h1⟩ | ⟨_, h1⟩ | ⟨w, q, hs, hw, hq, h1⟩
    · rw [h1]; exact .nil
    · rw [h1]
      rcases doConnect_items cfg c ctl a done with hi | ⟨c', hr, hi | ⟨src, ic, ho, hi⟩⟩
      · rw [hi]; exact .nil
      · rw [hi]; exact .lastAttempt hr
      · rw [hi]; exact .lastStream hr ho
    · have hq : ConnectRun cfg fl rest _ _ _ q.trace := hq ▸ ih _ _ _
      rw [h1]
      rcases doConnect_retry cfg c ctl a done hs with ⟨c', hr, ⟨isCtx, ho, hd⟩ | ⟨src, ic, ho, hd⟩⟩
      · rw [hd] at hw hq ⊢
        obtain ⟨hl, hwv, hst, _⟩ := next_some cfg fl ctl _ _ w hw
        have hq : ConnectRun cfg fl rest c' (ctl.next cfg fl a.tNext a.draw).1 _ q.trace := hq
        rw [hst] at hq
        subst hwv
        exact .failed hr ho hl hq
      · rw [hd] at hw hq ⊢
        have hw : ((applyRetries cfg ctl (outsOf c' src) a.tReset).next cfg fl a.tNext a.draw).2 = some w := hw
        have hq : ConnectRun cfg fl rest _ ((applyRetries cfg ctl (outsOf c' src) a.tReset).next cfg fl a.tNext a.draw).1 _ q.trace := hq
        rw [applyRetries_eq] at hw hq
        obtain ⟨hl, hwv, hst, _⟩ := next_some cfg fl _ _ _ w hw
        rw [hst] at hq
        subst hwv
        exact .lost hr ho hl hq

theorem resetRequest_first (c : Conn) (h : c.isRetry = false) :
    resetRequest c = ({ c with isRetry := true }, none) := by
  simp [resetRequest, h]

theorem resetRequestBody_table (r : Req) :
    ((r.body = .none ∨ r.body = .noBody) → resetRequestBody r = (r, none)) ∧
    (¬ (r.body = .none ∨ r.body = .noBody) →
      (r.getBody = .absent → resetRequestBody r = (r, some .noGetBody)) ∧
      (∀ failAt, r.getBody = .present failAt →
        (failAt = some r.getBodyCalls → resetRequestBody r = ({ r with getBodyCalls := r.getBodyCalls + 1 }, some .getBody)) ∧
        (failAt ≠ some r.getBodyCalls →
          resetRequestBody r = ({ r with getBodyCalls := r.getBodyCalls + 1, body := .fresh (r.getBodyCalls + 1) }, none)))) := by
  refine ⟨?_, ?_⟩
  · intro h
    rcases h with h | h <;> simp [resetRequestBody, h]
  · intro h
    have hb : (r.body == BodyRef.none || r.body == BodyRef.noBody) = false := by
      simp only [not_or] at h
      simp [h.1, h.2]
    refine ⟨?_, ?_⟩
    · intro hg; simp [resetRequestBody, hb, hg]
    · intro failAt hg
      refine ⟨?_, ?_⟩
      · intro hf; simp [resetRequestBody, hb, hg, hf]
      · intro hf; simp [resetRequestBody, hb, hg, hf]

theorem resetRequestBody_ok (r : Req) (h : (resetRequestBody r).2 = none) :
    ((resetRequestBody r).1.body, (resetRequestBody r).1.getBodyCalls) =
      if r.body = .none ∨ r.body = .noBody then (r.body, r.getBodyCalls)
      else (.fresh (r.getBodyCalls + 1), r.getBodyCalls + 1) := by
  by_cases hb : r.body = .none ∨ r.body = .noBody
  · rw [(resetRequestBody_table r).1 hb, if_pos hb]
  · obtain ⟨habs, hpres⟩ := (resetRequestBody_table r).2 hb
    rw [if_neg hb]
    cases hg : r.getBody with
    | absent => rw [habs hg] at h; cases h
    | present failAt =>
      by_cases hf : failAt = some r.getBodyCalls
      · rw [(hpres failAt hg).1 hf] at h; cases h
      · rw [(hpres failAt hg).2 hf]

theorem resetRequest_retry (c : Conn) (h : c.isRetry = true) :
    (∀ e, (resetRequestBody c.req).2 = some e →
      resetRequest c = ({ c with req := (resetRequestBody c.req).1 }, some e)) ∧
    ((resetRequestBody c.req).2 = none →
      resetRequest c = ({ c with req := { (resetRequestBody c.req).1 with header := headerOf c.lastEventID } }, none)) := by
  constructor
  · intro e he; simp [resetRequest, h, he]
  · intro he
    simp only [resetRequest, h, he, headerOf, Bool.not_true, Bool.false_eq_true, if_false]
    by_cases hl : c.lastEventID.isEmpty = true <;> simp [hl]

theorem resetRequest_keeps (c : Conn) :
    (resetRequest c).1.lastEventID = c.lastEventID ∧ (resetRequest c).1.buf = c.buf ∧
    (resetRequest c).1.req.getBody = c.req.getBody ∧ (resetRequest c).1.isRetry = true := by
  cases h : c.isRetry with
  | false => rw [resetRequest_first c h]; simp
  | true =>
    have hb : (resetRequestBody c.req).1.getBody = c.req.getBody := by
      unfold resetRequestBody
      split
      · rfl
      · split
        · rfl
        · split <;> rfl
    cases he : (resetRequestBody c.req).2 with
    | some e => rw [(resetRequest_retry c h).1 e he]; simp [h, hb]
    | none => rw [(resetRequest_retry c h).2 he]; simp [h, hb]

theorem resetRequest_header (c : Conn) (hr : (resetRequest c).2 = none) :
    (resetRequest c).1.req.header = if c.isRetry then headerOf c.lastEventID else c.req.header := by
  cases h : c.isRetry with
  | false => rw [resetRequest_first c h]; simp
  | true =>
    cases he : (resetRequestBody c.req).2 with
    | some e => rw [(resetRequest_retry c h).1 e he] at hr; simp at hr
    | none => rw [(resetRequest_retry c h).2 he]; simp

theorem resetRequest_ok (c c' : Conn) (h : resetRequest c = (c', none)) :
    c'.lastEventID = c.lastEventID ∧ c'.buf = c.buf ∧ c'.isRetry = true ∧
    c'.req.header = if c.isRetry then headerOf c.lastEventID else c.req.header := by
  have hk := resetRequest_keeps c
  have hh := resetRequest_header c (by rw [h])
  rw [h] at hk hh
  exact ⟨hk.1, hk.2.1, hk.2.2.2, hh⟩

theorem resetRequest_err_kinds (c : Conn) (e : ErrV) (he : (resetRequest c).2 = some e) :
    e = .noGetBody ∨ e = .getBody := by
  cases hr : c.isRetry with
  | false => rw [resetRequest_first c hr] at he; cases he
  | true =>
    cases hb : (resetRequestBody c.req).2 with
    | none => rw [(resetRequest_retry c hr).2 hb] at he; cases he
    | some e' =>
      rw [(resetRequest_retry c hr).1 e' hb] at he
      have : e' = e := by simpa using he
      subst this
      unfold resetRequestBody at hb
      split at hb
      · cases hb
      · split at hb
        · left; simpa using hb.symm
        · split at hb
          · right; simpa using hb.symm
          · cases hb

/-- C12: no more than `m` consecutive `retry` items without a `connected` item in between; `k` =
retries already made in the current series -/
def boundedRuns (m : Int) : Int → List TItem → Prop
  | _, [] => True
  | k, .retry _ _ :: t => k + 1 ≤ m ∧ boundedRuns m (k + 1) t
  | _, .connected _ :: t => boundedRuns m 0 t
  | k, .attempt _ _ _ :: t => boundedRuns m k t

def noRetry : List TItem → Prop
  | [] => True
  | .retry _ _ :: _ => False
  | _ :: t => noRetry t

/-- C12: `attempt (connected)? (retry attempt (connected)?)* retry?` — between two attempts there is
exactly one `OnRetry`; state 0 = an attempt may start, 1 = after `attempt`, 2 = after `connected` -/
def shape : Nat → List TItem → Prop
  | _, [] => True
  | 0, .attempt _ _ _ :: t => shape 1 t
  | 1, .connected _ :: t => shape 2 t
  | 1, .retry _ _ :: t => shape 0 t
  | 2, .retry _ _ :: t => shape 0 t
  | _, _ => False

/-- C12: every wait is related by `P` to the base in force: `b` is the current base; a `retry` item
uses it and moves on to the next base; a `connected` item installs the base the server asked for. -/
def sched (P : Int → Int → Prop) (cfg : Cfg) (fl : Floats) : Int → List TItem → Prop
  | _, [] => True
  | b, .retry _ w :: t => P b w ∧ sched P cfg fl (growI cfg fl b) t
  | _, .connected outs :: t => sched P cfg fl (retryInterval cfg.initialInterval outs) t
  | b, .attempt _ _ _ :: t => sched P cfg fl b t

/-- C10: every attempt but the very first carries `headerOf` the last dispatched ID -/
def headersOK (first : Bool) (id : Bytes) : List TItem → Prop
  | [] => True
  | .attempt h _ _ :: t => (first = true ∨ h = headerOf id) ∧ headersOK false id t
  | .connected outs :: t => headersOK first (lastDispatched id outs) t
  | .retry _ _ :: t => headersOK first id t

/-- C10: the `i`-th attempt (0-based) carries the original body, every later one a fresh body
obtained by exactly one more `GetBody` call — or, for requests without a body, nothing changes -/
def bodiesOK (body0 : BodyRef) : Nat → List TItem → Prop
  | _, [] => True
  | i, .attempt _ b g :: t =>
    (if body0 = .none ∨ body0 = .noBody then b = body0 ∧ g = 0
     else if i = 0 then b = body0 ∧ g = 0 else b = .fresh i ∧ g = i) ∧ bodiesOK body0 (i + 1) t
  | i, _ :: t => bodiesOK body0 i t

/-- body and number of `GetBody` calls of the request of attempt `i`, for a request made with body `body0` -/
def bodyAt (body0 : BodyRef) (i : Nat) : BodyRef × Nat :=
  if body0 = .none ∨ body0 = .noBody then (body0, 0) else if i = 0 then (body0, 0) else (.fresh i, i)

theorem bodiesOK_attempt (body0 : BodyRef) (i : Nat) (h : Option Bytes) (b : BodyRef) (g : Nat) (t : List TItem)
    (hb : (b, g) = bodyAt body0 i) (ht : bodiesOK body0 (i + 1) t) : bodiesOK body0 i (.attempt h b g :: t) := by
  refine ⟨?_, ht⟩
  unfold bodyAt at hb
  split
  · rw [if_pos ‹_›] at hb; exact Prod.mk.inj hb
  · rw [if_neg ‹_›] at hb
    split
    · rw [if_pos ‹_›] at hb; exact Prod.mk.inj hb
    · rw [if_neg ‹_›] at hb; exact Prod.mk.inj hb

theorem bodyAt_succ (body0 : BodyRef) (i : Nat) :
    bodyAt body0 (i + 1) =
      if (bodyAt body0 i).1 = .none ∨ (bodyAt body0 i).1 = .noBody then bodyAt body0 i
      else (.fresh ((bodyAt body0 i).2 + 1), (bodyAt body0 i).2 + 1) := by
  unfold bodyAt
  by_cases hb : body0 = .none ∨ body0 = .noBody
  · simp [hb]
  · by_cases hi : i = 0 <;> simp [hb, hi]

/-- before attempt `i` the connection holds the request of the attempt before; `isRetry` says whether there was one
(`i - 1` is `0` at `i = 0`: before the first attempt it holds the request of attempt `0`, still to be sent as it is) -/
def atStage (body0 : BodyRef) (c : Conn) (i : Nat) : Prop :=
  c.isRetry = decide (0 < i) ∧ (c.req.body, c.req.getBodyCalls) = bodyAt body0 (i - 1)

theorem resetRequest_stage (body0 : BodyRef) (c c' : Conn) (i : Nat) (hr : resetRequest c = (c', none))
    (hs : atStage body0 c i) :
    (c'.req.body, c'.req.getBodyCalls) = bodyAt body0 i ∧ atStage body0 c' (i + 1) := by
  have hb : (c'.req.body, c'.req.getBodyCalls) = bodyAt body0 i := by
    cases i with
    | zero =>
      rw [resetRequest_first c (by simpa using hs.1)] at hr
      cases hr
      exact hs.2
    | succ i =>
      have hret : c.isRetry = true := by simpa using hs.1
      have hprev : bodyAt body0 i = (c.req.body, c.req.getBodyCalls) := hs.2.symm
      cases he : (resetRequestBody c.req).2 with
      | some e => rw [(resetRequest_retry c hret).1 e he] at hr; cases hr
      | none =>
        rw [(resetRequest_retry c hret).2 he] at hr
        cases hr
        rw [bodyAt_succ, hprev]; exact resetRequestBody_ok c.req he
  exact ⟨hb, by simp [(resetRequest_ok c c' hr).2.2.1], hb⟩

theorem head_run {cfg : Cfg} {fl : Floats} {h : List Attempt} {c : Conn} {ctl : Ctl} {done : Bool} {tr : List TItem}
    (hrun : ConnectRun cfg fl h c ctl done tr) (x : TItem) (hx : tr.head? = some x) :
    ∃ c', resetRequest c = (c', none) ∧ x = attOf c' := by
  cases hrun with
  | nil => exact nomatch hx
  | lastAttempt hreset | lastStream hreset _ | failed hreset _ _ _ | lost hreset _ _ _ =>
    exact ⟨_, hreset, (Option.some.inj hx).symm⟩

/-- C10 for a run from a connection about to make attempt `i` of a request made with body `body0` -/
theorem bodiesOK_run {cfg : Cfg} {fl : Floats} {h : List Attempt} {c : Conn} {ctl : Ctl} {done : Bool} {tr : List TItem}
    (hrun : ConnectRun cfg fl h c ctl done tr) (body0 : BodyRef) (i : Nat) (hs : atStage body0 c i) : bodiesOK body0 i tr := by
  have hatt : ∀ {c c' : Conn} {i : Nat} {t : List TItem}, resetRequest c = (c', none) → atStage body0 c i →
      (atStage body0 c' (i + 1) → bodiesOK body0 (i + 1) t) → bodiesOK body0 i (attOf c' :: t) := by
    intro c c' i t hr hs ht
    obtain ⟨hb, hs'⟩ := resetRequest_stage body0 c c' i hr hs
    exact bodiesOK_attempt _ _ _ _ _ _ hb (ht hs')
  induction hrun generalizing i with
  | nil => trivial
  | lastAttempt hreset => exact hatt hreset hs (fun _ => trivial)
  | lastStream hreset _ => exact hatt hreset hs (fun _ => trivial)
  | failed hreset _ _ _ ih => exact hatt hreset hs (ih (i + 1))
  | lost hreset _ _ _ ih => exact hatt hreset hs (ih (i + 1))

/-- `C12.schedule` with an invariant `I` on the bases and a condition `U` on the random draws -/
theorem schedule_inv (P : Int → Int → Prop) (I : Int → Prop) (U : Int → Prop) (cfg : Cfg) (fl : Floats)
    (hIg : ∀ b, I b → I (growI cfg fl b)) (hIr : ∀ outs, I (retryInterval cfg.initialInterval outs))
    (hP : ∀ b u, I b → U u → P b (nextInterval cfg fl b u))
    {h : List Attempt} {c : Conn} {ctl : Ctl} {done : Bool} {tr : List TItem} (hrun : ConnectRun cfg fl h c ctl done tr)
    (hU : ∀ a ∈ h, U a.draw) (hI : I ctl.interval) : sched P cfg fl ctl.interval tr := by
  induction hrun with
  | nil | lastAttempt | lastStream => trivial
  | failed _ _ _ _ ih =>
    exact ⟨hP _ _ hI (hU _ List.mem_cons_self), ih (fun x hx => hU x (List.mem_cons_of_mem _ hx)) (hIg _ hI)⟩
  | lost _ _ _ _ ih =>
    exact ⟨hP _ _ (hIr _) (hU _ List.mem_cons_self), ih (fun x hx => hU x (List.mem_cons_of_mem _ hx)) (hIg _ (hIr _))⟩

theorem boundedRuns_run {cfg : Cfg} {fl : Floats} (hm : cfg.maxRetries > 0)
    {h : List Attempt} {c : Conn} {ctl : Ctl} {done : Bool} {tr : List TItem} (hrun : ConnectRun cfg fl h c ctl done tr)
    (h0 : 0 ≤ ctl.numRetries) (hk : ctl.numRetries ≤ cfg.maxRetries) : boundedRuns cfg.maxRetries ctl.numRetries tr := by
  -- a granted `next` found the count below `MaxRetries` and counts one more; a stream starts a new series
  induction hrun with
  | nil | lastAttempt | lastStream => trivial
  | @failed _ _ _ ctl _ _ _ _ _ _ hlimit _ ih =>
    have := ne_max_of_not_limitHit cfg ctl hm hlimit
    exact ⟨by omega, ih (show 0 ≤ ctl.numRetries + 1 by omega) (show ctl.numRetries + 1 ≤ cfg.maxRetries by omega)⟩
  | lost _ _ _ _ ih => exact ⟨by omega, ih (show (0 : Int) ≤ 1 by decide) (show 1 ≤ cfg.maxRetries by omega)⟩

theorem noRetry_run {cfg : Cfg} {fl : Floats} (hm : cfg.maxRetries < 0)
    {h : List Attempt} {c : Conn} {ctl : Ctl} {done : Bool} {tr : List TItem} (hrun : ConnectRun cfg fl h c ctl done tr) :
    noRetry tr := by
  -- a `retry` item needs a `next` the limit did not refuse
  cases hrun with
  | nil | lastAttempt | lastStream => trivial
  | failed _ _ hlimit _ => exact nomatch (limitHit_of_neg cfg _ hm).symm.trans hlimit
  | lost _ _ hlimit _ => exact nomatch (limitHit_of_neg cfg _ hm).symm.trans hlimit

theorem shape_run {cfg : Cfg} {fl : Floats} {h : List Attempt} {c : Conn} {ctl : Ctl} {done : Bool} {tr : List TItem}
    (hrun : ConnectRun cfg fl h c ctl done tr) : shape 0 tr := by
  induction hrun with
  | nil | lastAttempt | lastStream => trivial
  | failed _ _ _ _ ih => exact ih
  | lost _ _ _ _ ih => exact ih

def srcBytes (src : Source) : Bytes := src.chunks.flatten
def srcEnd (src : Source) : EndKind := if src.endErr then .err else .eof

/-- the last dispatched ID after attempt `a`, according to the WHATWG specification `Spec.run` -/
def idAfterSpec (id : Bytes) (a : Attempt) : Bytes :=
  match a.out with
  | .stream src _ => lastDispatched id (run .gosse true id (srcBytes src) (srcEnd src)).1
  | _ => id

/-- the Last-Event-ID headers the specification prescribes for the attempts of a history: `h0` for the
next attempt, then `headerOf` the last dispatched ID of all streams so far -/
def expectedHeaders (h0 : Option Bytes) (id : Bytes) : List Attempt → List (Option Bytes)
  | [] => []
  | a :: rest => h0 :: expectedHeaders (headerOf (idAfterSpec id a)) (idAfterSpec id a) rest

def attemptHeaders : List TItem → List (Option Bytes)
  | [] => []
  | .attempt h _ _ :: t => h :: attemptHeaders t
  | _ :: t => attemptHeaders t

/-- the refinement proved as C01, for the streams of a history: the connection's reader dispatches
exactly the events the specification dispatches -/
def RefinesSpec (buf : Option (Nat × Int)) (h : List Attempt) : Prop :=
  ∀ a ∈ h, ∀ src ic, a.out = .stream src ic → ∀ id,
    (implRun true id src buf).1.filter isEvent = (run .gosse true id (srcBytes src) (srcEnd src)).1.filter isEvent

/-- no stream of the history makes the connection's scanner (buffer configuration `buf`) report
`ErrTooLong`, whatever ID the connection holds at that point -/
def NoTooLong (buf : Option (Nat × Int)) (h : List Attempt) : Prop :=
  ∀ a ∈ h, ∀ src ic, a.out = .stream src ic → ∀ id, (implRun true id src buf).2.1 ≠ .tooLong

theorem lastDispatched_filter (id : Bytes) (outs : List Out) :
    lastDispatched id (outs.filter isEvent) = lastDispatched id outs := by
  unfold lastDispatched
  induction outs generalizing id with
  | nil => rfl
  | cons o outs ih =>
    cases o with
    | event e => simp [List.filter_cons, isEvent, ih]
    | retry n => simp [isEvent, ih]

theorem lastDispatched_congr (id : Bytes) (o1 o2 : List Out) (h : o1.filter isEvent = o2.filter isEvent) :
    lastDispatched id o1 = lastDispatched id o2 := by
  rw [← lastDispatched_filter id o1, ← lastDispatched_filter id o2, h]

/-- C10 for a run from any connection: one past its first attempt (`isRetry`) sends the header of the ID it holds -/
theorem headersOK_run {cfg : Cfg} {fl : Floats} {h : List Attempt} {c : Conn} {ctl : Ctl} {done : Bool} {tr : List TItem}
    (hrun : ConnectRun cfg fl h c ctl done tr) : headersOK (!c.isRetry) c.lastEventID tr := by
  have hatt : ∀ {c c' : Conn} {t : List TItem}, resetRequest c = (c', none) →
      headersOK (!c'.isRetry) c'.lastEventID t → headersOK (!c.isRetry) c.lastEventID (attOf c' :: t) := by
    intro c c' t hr ht
    obtain ⟨hid, _, hret, hh⟩ := resetRequest_ok c c' hr
    rw [hret, hid] at ht
    refine ⟨?_, ht⟩
    rw [hh]
    cases c.isRetry <;> simp
  induction hrun with
  | nil => trivial
  | lastAttempt hreset => exact hatt hreset trivial
  | lastStream hreset _ => exact hatt hreset trivial
  | failed hreset _ _ _ ih => exact hatt hreset ih
  | lost hreset _ _ _ ih => exact hatt hreset ih

theorem attemptHeaders_run {cfg : Cfg} {fl : Floats} {h : List Attempt} {c : Conn} {ctl : Ctl} {done : Bool} {tr : List TItem}
    (hrun : ConnectRun cfg fl h c ctl done tr) (href : RefinesSpec c.buf h) :
    attemptHeaders tr <+: expectedHeaders (if c.isRetry then headerOf c.lastEventID else c.req.header) c.lastEventID h := by
  -- the attempt made with the reset request `c'` carries the header expected first; the items after it are those of a
  -- connection `c''` past its first attempt that holds the ID the specification reads off this attempt
  have hatt : ∀ {a : Attempt} {rest : List Attempt} {c c' : Conn} (c'' : Conn) {t : List TItem}, resetRequest c = (c', none) →
      c''.isRetry = c'.isRetry → c''.buf = c'.buf → c''.lastEventID = idAfterSpec c.lastEventID a →
      (RefinesSpec c''.buf rest → attemptHeaders t <+:
        expectedHeaders (if c''.isRetry then headerOf c''.lastEventID else c''.req.header) c''.lastEventID rest) →
      RefinesSpec c.buf (a :: rest) →
      attemptHeaders (attOf c' :: t) <+:
        expectedHeaders (if c.isRetry then headerOf c.lastEventID else c.req.header) c.lastEventID (a :: rest) := by
    intro a rest c c' c'' t hr hret hbuf hid ih href
    obtain ⟨_, hb, hret', hh⟩ := resetRequest_ok c c' hr
    have ih := ih (by rw [hbuf, hb]; exact fun b hb => href b (List.mem_cons_of_mem _ hb))
    rw [hret, hret', hid] at ih
    rw [← hh]
    exact (List.prefix_cons_inj _).mpr ih
  induction hrun with
  | nil => exact List.nil_prefix
  | @lastAttempt a _ c _ _ c' hreset =>
    exact hatt { c' with lastEventID := idAfterSpec c.lastEventID a } hreset rfl rfl rfl (fun _ => List.nil_prefix) href
  | @lastStream a _ c _ _ c' _ _ hreset _ =>
    exact hatt { c' with lastEventID := idAfterSpec c.lastEventID a } (t := []) hreset rfl rfl rfl (fun _ => List.nil_prefix) href
  | failed hreset hout _ _ ih =>
    exact hatt _ hreset rfl rfl (by rw [(resetRequest_ok _ _ hreset).1]; simp [idAfterSpec, hout]) ih href
  | @lost _ _ _ _ _ c' src _ _ hreset hout _ _ ih =>
    refine hatt { c' with lastEventID := lastDispatched c'.lastEventID (outsOf c' src) } hreset rfl rfl ?_ ih href
    obtain ⟨hid, hbuf, _, _⟩ := resetRequest_ok _ _ hreset
    unfold idAfterSpec outsOf
    rw [hout]
    simp only [hid, hbuf]
    exact lastDispatched_congr _ _ _ (href _ List.mem_cons_self _ _ hout _)

end GoSSE.Proofs.ClientConnect
