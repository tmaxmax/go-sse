import GoSSE.Proofs.ParserSpec
import GoSSE.Proofs.ParserLine
/-!
`FieldParser.Next` against the specification machine: the lines it skips are no-ops of the
specification, the field it returns is what the specification does with that line.
-/
namespace GoSSE.Proofs
open GoSSE GoSSE.Spec GoSSE.Model

/-- what `FieldParser.Next` guarantees, seen from the specification machine in state
`⟨toI st, [], sk⟩` -/
inductive FPPost (conn : Bool) (st : RState) (sk : Bool) (f : FP) : Option Field × FP → Prop
  /-- a field: the lines `C` were consumed; for the specification they amount to this field -/
  | field (fld : Field) (f' : FP) (C : Bytes) (sk' : Bool)
      (hkc : f'.keepComments = f.keepComments) (hbom : f'.removeBOM = f.removeBOM)
      (hdata : f.data = C ++ f'.data) (hC : C ≠ [])
      (hfeed : feed conn ⟨toI st, [], sk⟩ C = (⟨toI (readField conn st fld).1, [], sk'⟩, (readField conn st fld).2))
      (hskip : sk' = true → f'.data.head? ≠ some 10) (hclean : CleanInv (readField conn st fld).1)
      (herr : f'.err = f.err) (hstarted : f'.started = true) : FPPost conn st sk f (some fld, f')
  /-- no further field: all of the data went through the specification; `f'` keeps an unterminated last line -/
  | rest (f' : FP) (sk' : Bool)
      (hkc : f'.keepComments = f.keepComments) (hbom : f'.removeBOM = f.removeBOM)
      (hfeed : feed conn ⟨toI st, [], sk⟩ f.data = (⟨toI st, f'.data.reverse, sk'⟩, []))
      (hnl : NlFree f'.data) (herr : f'.err = (f.err || !f'.data.isEmpty))
      (hstarted : f'.started = (f.started || !f.data.isEmpty)) : FPPost conn st sk f (none, f')

theorem FP_next_nil (fuel : Nat) (f : FP) (h : f.data = []) : FP.next (fuel + 1) f = (none, f) := by
  rw [FP.next, h]; rfl

/-- no line end left: `ErrUnexpectedEOF` -/
theorem FP_next_noNl (fuel : Nat) (f : FP) (hd : f.data ≠ []) (h : NlFree f.data) :
    FP.next (fuel + 1) f = (none, { f with started := true, err := true }) := by
  have hde : f.data.isEmpty = false := by simpa using hd
  rw [FP.next]
  simp only [hde, nextChunk_noNl _ h, Bool.false_eq_true, if_false, Bool.not_false, if_true]

theorem FP_next_term (fuel : Nat) (f : FP) (l term t : Bytes) (hd : f.data = l ++ term ++ t) (hl : NlFree l)
    (ht : IsTerm term t) :
    FP.next (fuel + 1) f =
      match scanSegment f.keepComments l with
      | some fld => (some fld, { f with started := true, data := t })
      | none => FP.next fuel { f with started := true, data := t } := by
  have hde : (l ++ term ++ t).isEmpty = false := by simp [ht.ne_nil]
  rw [FP.next]
  simp only [hd, hde, nextChunk_term l term t hl ht, Bool.false_eq_true, if_false, Bool.not_true]
  rfl

theorem FPPost.skip {conn : Bool} {st : RState} {sk sk1 : Bool} {f : FP} {C t : Bytes} {r : Option Field × FP}
    (hd : f.data = C ++ t) (hC : C ≠ []) (hfeed : feed conn ⟨toI st, [], sk⟩ C = (⟨toI st, [], sk1⟩, []))
    (h : FPPost conn st sk1 { f with started := true, data := t } r) : FPPost conn st sk f r := by
  have hfeed' : ∀ X, feed conn ⟨toI st, [], sk⟩ (C ++ X) = feed conn ⟨toI st, [], sk1⟩ X := fun X => by
    rw [feed_append, hfeed]; rfl
  have hne : C ++ t ≠ [] := fun h => hC (List.append_eq_nil_iff.1 h).1
  cases h with
  | field fld f' D sk' hkc hbom hdata hD hfeedD hskip hclean herr hstarted =>
    exact .field fld f' (C ++ D) sk' hkc hbom (by rw [hd, List.append_assoc]; exact congrArg _ hdata)
      (fun h => hC (List.append_eq_nil_iff.1 h).1) (by rw [hfeed', hfeedD]) hskip hclean herr hstarted
  | rest f' sk' hkc hbom hfeedt hnl herr hstarted =>
    refine .rest f' sk' hkc hbom (by rw [hd, hfeed']; exact hfeedt) hnl herr ?_
    rw [hstarted, hd, List.isEmpty_eq_false_iff.2 hne]; simp

theorem FP_next_feed (conn : Bool) (fuel : Nat) (f : FP) (st : RState) (sk : Bool)
    (hk : f.keepComments = false) (hfuel : f.data.length < fuel) (hclean : CleanInv st)
    (hsk : sk = true → f.data.head? ≠ some 10) :
    FPPost conn st sk f (FP.next fuel f) := by
  induction fuel generalizing f sk with
  | zero => omega
  | succ fuel ih =>
    by_cases hd : f.data = []
    · rw [FP_next_nil fuel f hd]
      exact .rest f sk rfl rfl (by rw [hd]; rfl) (by rw [hd]; exact nlFree_nil) (by simp [hd]) (by simp [hd])
    rcases exists_line_split f.data with hno | ⟨l, term, t, hs, hl, hterm⟩
    · rw [FP_next_noNl fuel f hd hno]
      refine .rest _ false rfl rfl ?_ hno (by simp [hd]) (by simp [hd])
      rw [feed_noNl conn _ _ _ _ hno]; simp [hd]
    · have hne : l ++ term ≠ [] := fun h => hterm.ne_nil (List.append_eq_nil_iff.1 h).2
      have hfl := feed_line conn (toI st) sk l term t hl hterm fun h => by
        have := hsk h
        rwa [hs, head?_append_of_ne_nil _ _ hne] at this
      rw [(lineStep_conforms conn st l hclean).1] at hfl
      have hinv := lineStep_inv conn st l hclean
      have hskt : decide (term = [13]) = true → t.head? ≠ some 10 := fun h =>
        hterm.last_cr [] (by rw [of_decide_eq_true h]; rfl)
      rw [FP_next_term fuel f l term t hs hl hterm]
      unfold lineStep at hfl hinv
      cases hseg : scanSegment f.keepComments l with
      | some fld =>
        rw [hk] at hseg; rw [hseg] at hfl hinv
        exact .field fld _ (l ++ term) _ rfl rfl hs hne hfl hskt hinv rfl rfl
      | none =>
        rw [hk] at hseg; rw [hseg] at hfl
        have hlen : t.length < fuel := by
          have := hterm.pos; rw [hs] at hfuel; simp only [List.length_append] at hfuel; omega
        exact .skip hs hne hfl (ih { f with started := true, data := t } _ hk hlen hskt)

end GoSSE.Proofs
