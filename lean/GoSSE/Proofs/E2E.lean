import GoSSE.Proofs.MessageDecode
import GoSSE.Spec.Sessions
/-!
Helper lemmas for C05: what a client decodes from a *prefix* of a session's body, and how the
sessions of a reconnecting client compose.
-/
namespace GoSSE.Proofs
open GoSSE GoSSE.Spec GoSSE.Model

theorem take_flatMap {α β : Type} (f : α → List β) (xs : List α) (n : Nat) :
    ∃ k r, k ≤ xs.length ∧ (xs.flatMap f).take n = (xs.take k).flatMap f ++ r ∧
      (r = [] ∨ ∃ x j, xs[k]? = some x ∧ j < (f x).length ∧ r = (f x).take j) := by
  induction xs generalizing n with
  | nil => exact ⟨0, [], Nat.le_refl _, by simp, .inl rfl⟩
  | cons x xs ih =>
    by_cases hn : n < (f x).length
    · refine ⟨0, (f x).take n, Nat.zero_le _, ?_, .inr ⟨x, n, rfl, hn, rfl⟩⟩
      rw [List.flatMap_cons, List.take_append_of_le_length (Nat.le_of_lt hn)]; rfl
    · obtain ⟨k, r, hk, ht, hr⟩ := ih (n - (f x).length)
      refine ⟨k + 1, r, Nat.succ_le_succ hk, ?_, hr⟩
      rw [List.flatMap_cons, List.take_append, List.take_of_length_le (by omega), ht, List.take_succ_cons,
        List.flatMap_cons, List.append_assoc]

theorem take_term (ls : List Bytes) (n : Nat) :
    ∃ j r, (term ls).take n = term (ls.take j) ++ r ∧ (r = [] ∨ ∃ l ∈ ls, r <+: l) := by
  obtain ⟨j, r, _, ht, hr⟩ := take_flatMap (· ++ [10]) ls n
  refine ⟨j, r, ht, hr.imp_right fun ⟨l, i, hl, hi, e⟩ => ⟨l, List.mem_of_getElem? hl, ?_⟩⟩
  rw [e, List.take_append_of_le_length (by simpa [Nat.lt_succ_iff] using hi)]
  exact List.take_prefix _ _

/-- a proper prefix of a message's lines never reaches the closing blank line -/
theorem take_flatMap_msgLines (ms : List Message) (j : Nat) :
    ∃ k r, k ≤ ms.length ∧ (ms.flatMap msgLines).take j = (ms.take k).flatMap msgLines ++ r ∧ ∀ l ∈ r, l ≠ [] := by
  obtain ⟨k, r, hk, ht, hr⟩ := take_flatMap msgLines ms j
  refine ⟨k, r, hk, ht, fun l hl => ?_⟩
  rcases hr with rfl | ⟨m, i, _, hi, rfl⟩
  · cases hl
  · unfold msgLines at hi hl
    split at hi
    · cases hi
    · rename_i he
      rw [List.length_append] at hi
      rw [if_neg he, List.take_append_of_le_length (Nat.le_of_lt_succ hi)] at hl
      exact lines_nonempty m l (List.mem_of_mem_take hl)

section Sessions
variable {ι : Type} [DecidableEq ι]

theorem afterG_decomp (pre post : List ι) (k : ι) (h : k ∉ pre) : afterG (pre ++ k :: post) k = post := by
  have hpre : ∀ a ∈ pre, (a != k) = true := fun a ha => bne_iff_ne.2 fun e => h (e ▸ ha)
  simp [afterG, List.dropWhile_append_of_pos hpre, List.dropWhile]

/-- after dispatching the first `k` entries following `cur`, what follows the new ID is the rest -/
theorem afterG_advance (L : List ι) (hn : L.Nodup) (cur : ι) (hc : cur ∈ L) (k : Nat) :
    afterG L (((afterG L cur).take k).getLast?.getD cur) = (afterG L cur).drop k := by
  obtain ⟨pre, post, hL⟩ := List.append_of_mem hc
  have hpre : cur ∉ pre := by
    intro hm
    rw [hL] at hn
    exact (List.nodup_append.mp hn).2.2 cur hm cur (by simp) rfl
  have hA : afterG L cur = post := by rw [hL]; exact afterG_decomp pre post cur hpre
  rw [hA]
  cases hseg : (post.take k).getLast? with
  | none =>
    -- nothing dispatched: k = 0 or nothing follows
    have : post.take k = [] := List.getLast?_eq_none_iff.mp hseg
    simp only [Option.getD_none, hA]
    rcases List.take_eq_nil_iff.mp this with h | h
    · subst h; simp
    · subst h; simp
  | some x =>
    -- `x` is the last of the first `k` entries of `post`: `L` splits at `x`, and `x` occurs nowhere before
    obtain ⟨ys, hys⟩ := List.getLast?_eq_some_iff.mp hseg
    have hpost : post = ys ++ x :: post.drop k := by
      conv => lhs; rw [← List.take_append_drop k post, hys]
      simp
    have e2 : L = (pre ++ cur :: ys) ++ x :: post.drop k := by
      rw [hL]; conv => lhs; rw [hpost]
      simp
    have hxnot : x ∉ pre ++ cur :: ys := by
      intro hm
      rw [e2] at hn
      exact (List.nodup_append.mp hn).2.2 x hm x (by simp) rfl
    rw [Option.getD_some, e2]
    exact afterG_decomp _ _ x hxnot

theorem last_mem_of_take (L : List ι) (cur : ι) (hc : cur ∈ L) (k : Nat) :
    ((afterG L cur).take k).getLast?.getD cur ∈ L := by
  cases h : ((afterG L cur).take k).getLast? with
  | none => simpa using hc
  | some x =>
    simp only [Option.getD_some]
    have hx : x ∈ (afterG L cur).take k := List.mem_of_getLast? h
    have : x ∈ afterG L cur := List.mem_of_mem_take hx
    exact (List.dropWhile_sublist _).subset (List.mem_of_mem_drop this)

/-- **Sessions compose**: with unique IDs, whatever the number of sessions and however little each one
delivers, the concatenation of what the client dispatched is exactly the log after the ID it started
from, in order, each entry once, up to the total number dispatched. -/
theorem sessions_compose (L : List ι) (hn : L.Nodup) (cur : ι) (hc : cur ∈ L) (ks : List Nat) :
    (playSessions L cur ks).1 = (afterG L cur).take ks.sum := by
  induction ks generalizing cur with
  | nil => simp [playSessions]
  | cons k ks ih =>
    simp only [playSessions, List.sum_cons]
    rw [ih _ (last_mem_of_take L cur hc k), afterG_advance L hn cur hc k]
    rw [← List.take_add]

end Sessions

end GoSSE.Proofs
