import GoSSE.Proofs.JoeStep
/-!
The delivery invariant of Joe's transition system: what has been sent live to a subscription
is exactly the matching part of its window of the publication log.
-/
namespace GoSSE.Proofs.Joe
open GoSSE.Model.Joe

def pubsOf (cs : List Call) : List PubId :=
  cs.filterMap fun c => match c with | .send p _ => some p | _ => none

/-- publications sent live (after replay) to a subscription, in order, incl. a failed last one -/
def livePubs (st : SubSt) : List PubId := pubsOf (st.calls.drop st.replayed)

/-- the part of the log during which the subscription was registered -/
def window (s : St) (i : SubId) : List PubId :=
  match (s.subs i).regAt with
  | none => []
  | some a => (s.log.take ((s.subs i).endAt.getD s.log.length)).drop a

def expected (c : Cfg) (s : St) (i : SubId) : List PubId := (window s i).filter (matchesP c i)

def restOf : JoePc → Option (PubId × List SubId)
  | .fanout p rest => some (p, rest)
  | .failed p _ rest => some (p, rest)
  | _ => none

/-- the publication being fanned out, if subscription i is still to be visited -/
def pendingFor (s : St) (i : SubId) : List PubId :=
  match restOf s.joe with
  | some (p, rest) => if i ∈ rest then [p] else []
  | none => []

@[simp] theorem pubsOf_nil : pubsOf [] = [] := rfl
theorem pubsOf_append (a b : List Call) : pubsOf (a ++ b) = pubsOf a ++ pubsOf b := by
  simp [pubsOf, List.filterMap_append]

def windowOf (st : SubSt) (log : List PubId) : List PubId :=
  match st.regAt with
  | none => []
  | some a => (log.take (st.endAt.getD log.length)).drop a

theorem windowOf_none {st : SubSt} {log : List PubId} (h : st.regAt = none) : windowOf st log = [] := by
  rw [windowOf, h]

theorem windowOf_some {st : SubSt} {log : List PubId} {a : Nat} (h : st.regAt = some a) :
    windowOf st log = (log.take (st.endAt.getD log.length)).drop a := by
  rw [windowOf, h]

theorem pendingFor_none {s : St} (h : restOf s.joe = none) (i : SubId) : pendingFor s i = [] := by
  rw [pendingFor, h]

theorem pendingFor_some {s : St} {p : PubId} {rest : List SubId} (h : restOf s.joe = some (p, rest)) (i : SubId) :
    pendingFor s i = if i ∈ rest then [p] else [] := by
  rw [pendingFor, h]

theorem mem_pendingFor {s : St} {i : SubId} {p : PubId} :
    p ∈ pendingFor s i ↔ ∃ rest, restOf s.joe = some (p, rest) ∧ i ∈ rest := by
  cases hr : restOf s.joe with
  | none => rw [pendingFor_none hr]; exact ⟨nofun, nofun⟩
  | some qr =>
    obtain ⟨q, rest⟩ := qr
    rw [pendingFor_some hr]
    by_cases hi : i ∈ rest
    · rw [if_pos hi, List.mem_singleton]
      exact ⟨fun e => ⟨rest, by rw [e], hi⟩, fun ⟨_, e, _⟩ => by cases e; rfl⟩
    · rw [if_neg hi]
      exact ⟨nofun, fun ⟨_, e, hm⟩ => by cases e; exact absurd hm hi⟩

theorem pendingFor_congr {s s' : St} {p : PubId} {rest rest' : List SubId} (h : restOf s.joe = some (p, rest))
    (h' : restOf s'.joe = some (p, rest')) {k : SubId} (hk : k ∈ rest' ↔ k ∈ rest) : pendingFor s' k = pendingFor s k := by
  rw [pendingFor_some h, pendingFor_some h']; simp only [hk]

structure DInv (c : Cfg) (s : St) : Prop where
  fresh : ∀ i, ((s.subs i).pc = .idle ∨ (s.subs i).pc = .start) →
    (s.subs i).calls = [] ∧ (s.subs i).replayed = 0 ∧ (s.subs i).regAt = none ∧ (s.subs i).endAt = none
  lenOK : ∀ i, (s.subs i).replayed ≤ (s.subs i).calls.length
  bounds : ∀ i a, (s.subs i).regAt = some a → a ≤ s.log.length ∧
    ∀ b, (s.subs i).endAt = some b → a ≤ b ∧ b ≤ s.log.length
  mem : ∀ i ∈ s.subscribers, (s.subs i).regAt ≠ none ∧
    ((s.subs i).endAt = none ∨ ∃ p rest, s.joe = .failed p i rest)
  nonmem : ∀ i, i ∉ s.subscribers → (s.subs i).regAt ≠ none → (s.subs i).endAt ≠ none
  failedEnd : ∀ p i rest, s.joe = .failed p i rest → (s.subs i).endAt ≠ none
  cur : ∀ p rest, restOf s.joe = some (p, rest) →
    s.log.getLast? = some p ∧ ∀ i ∈ rest, matchesP c i p = true ∧ (s.subs i).endAt = none
  main : ∀ i, livePubs (s.subs i) ++ pendingFor s i = expected c s i

theorem dinv_init {c : Cfg} {s : St} (h : IsInit s) : DInv c s := by
  obtain ⟨hj, hs, _, _, _, hlog, hsub, _, _⟩ := h
  refine ⟨?_, ?_, ?_, by simp [hs], ?_, by simp [hj], by simp [hj, restOf], ?_⟩
  · intro i _; exact ⟨(hsub i).2.2.2.1, (hsub i).2.2.2.2.1, (hsub i).2.2.2.2.2.1, (hsub i).2.2.2.2.2.2⟩
  · intro i; simp [(hsub i).2.2.2.2.1]
  · intro i a ha; simp [(hsub i).2.2.2.2.2.1] at ha
  · intro i _ hr; exact absurd (hsub i).2.2.2.2.2.1 hr
  · intro i
    simp [livePubs, pendingFor, expected, window, hj, restOf, (hsub i).2.2.2.1, (hsub i).2.2.2.2.2.1]

/-- The clauses of `DInv` about subscription `i`, whose record is `st`: `isMem` — it is registered; `failed` — the loop
has placed its error and not yet removed it; `pend` — what is pending for it; `log` — the publication log. -/
structure DSub (c : Cfg) (i : SubId) (st : SubSt) (isMem failed : Prop) (pend log : List PubId) : Prop where
  fresh : (st.pc = .idle ∨ st.pc = .start) → st.calls = [] ∧ st.replayed = 0 ∧ st.regAt = none ∧ st.endAt = none
  lenOK : st.replayed ≤ st.calls.length
  bounds : ∀ a, st.regAt = some a → a ≤ log.length ∧ ∀ b, st.endAt = some b → a ≤ b ∧ b ≤ log.length
  mem : isMem → st.regAt ≠ none ∧ (st.endAt = none ∨ failed)
  nonmem : ¬ isMem → st.regAt ≠ none → st.endAt ≠ none
  failedEnd : failed → st.endAt ≠ none
  cur : ∀ p ∈ pend, matchesP c i p = true ∧ st.endAt = none
  main : livePubs st ++ pend = (windowOf st log).filter (matchesP c i)

theorem DInv.sub {c : Cfg} {s : St} (h : DInv c s) (i : SubId) :
    DSub c i (s.subs i) (i ∈ s.subscribers) (∃ p rest, s.joe = .failed p i rest) (pendingFor s i) s.log :=
  ⟨h.fresh i, h.lenOK i, h.bounds i, h.mem i, h.nonmem i, fun ⟨p, rest, hf⟩ => h.failedEnd p i rest hf,
    fun p hp => by obtain ⟨rest, hr, hm⟩ := mem_pendingFor.mp hp; exact (h.cur p rest hr).2 i hm, h.main i⟩

theorem dinv_of_sub {c : Cfg} {s : St} (hlast : ∀ p rest, restOf s.joe = some (p, rest) → s.log.getLast? = some p)
    (h : ∀ i, DSub c i (s.subs i) (i ∈ s.subscribers) (∃ p rest, s.joe = .failed p i rest) (pendingFor s i) s.log) :
    DInv c s :=
  ⟨fun i => (h i).fresh, fun i => (h i).lenOK, fun i => (h i).bounds, fun i => (h i).mem, fun i => (h i).nonmem,
    fun p i rest hf => (h i).failedEnd ⟨p, rest, hf⟩,
    fun p rest hr => ⟨hlast p rest hr, fun i hi => (h i).cur p (mem_pendingFor.mpr ⟨rest, hr, hi⟩)⟩, fun i => (h i).main⟩

theorem dinv_congr {c : Cfg} {s s' : St} (h : DInv c s) (hj : s'.joe = s.joe) (hs : s'.subscribers = s.subscribers)
    (hsub : s'.subs = s.subs) (hlog : s'.log = s.log) : DInv c s' := by
  obtain ⟨j, l, _, _, _, _, f, _, _, g⟩ := s'
  dsimp only at hj hs hsub hlog
  subst hj hs hsub hlog
  exact ⟨h.fresh, h.lenOK, h.bounds, h.mem, h.nonmem, h.failedEnd, h.cur, h.main⟩

theorem DSub.congr {c : Cfg} {i : SubId} {st : SubSt} {m f m' f' : Prop} {pend pend' log : List PubId}
    (h : DSub c i st m f pend log) (hm : m' ↔ m) (hf : f' ↔ f) (hp : pend' = pend) : DSub c i st m' f' pend' log := by
  rw [propext hm, propext hf, hp]; exact h

theorem dinv_set {c : Cfg} {s s' : St} (h : DInv c s) (k : SubId) {st : SubSt} (hsub : s'.subs = upd s.subs k st)
    (hlog : s'.log = s.log) (hcur : (restOf s'.joe).map Prod.fst = (restOf s.joe).map Prod.fst)
    (hmem : ∀ i, i ≠ k → (i ∈ s'.subscribers ↔ i ∈ s.subscribers))
    (hfail : ∀ i, i ≠ k → ((∃ p rest, s'.joe = .failed p i rest) ↔ ∃ p rest, s.joe = .failed p i rest))
    (hpend : ∀ i, i ≠ k → pendingFor s' i = pendingFor s i)
    (hk : DSub c k st (k ∈ s'.subscribers) (∃ p rest, s'.joe = .failed p k rest) (pendingFor s' k) s.log) :
    DInv c s' := by
  refine dinv_of_sub (fun p rest hr => ?_) fun i => ?_
  · have : (restOf s.joe).map Prod.fst = some p := by rw [← hcur, hr]; rfl
    obtain ⟨⟨_, rest'⟩, hr', rfl⟩ := Option.map_eq_some_iff.mp this
    rw [hlog]; exact (h.cur _ rest' hr').1
  · rw [hsub, hlog]
    by_cases hik : i = k
    · subst hik; rw [upd_same]; exact hk
    · rw [upd_other _ _ _ _ hik]; exact (h.sub i).congr (hmem i hik) (hfail i hik) (hpend i hik)

theorem dinv_setSub {c : Cfg} {s : St} (h : DInv c s) (k : SubId) (st : SubSt)
    (hk : DSub c k st (k ∈ s.subscribers) (∃ p rest, s.joe = .failed p k rest) (pendingFor s k) s.log) :
    DInv c (setSub s k st) :=
  dinv_set h k rfl rfl rfl (fun _ _ => Iff.rfl) (fun _ _ => Iff.rfl) (fun _ _ => rfl) hk

theorem DSub.upd {c : Cfg} {i : SubId} {st st' : SubSt} {m f : Prop} {pend log : List PubId} (h : DSub c i st m f pend log)
    (hfresh : (st'.pc = .idle ∨ st'.pc = .start) →
      st'.calls = [] ∧ st'.replayed = 0 ∧ st'.regAt = none ∧ st'.endAt = none)
    (hlen : st'.replayed ≤ st'.calls.length) (hreg : st'.regAt = st.regAt) (hend : st'.endAt = st.endAt)
    (hlive : livePubs st' = livePubs st) : DSub c i st' m f pend log :=
  ⟨hfresh, hlen, by rw [hreg, hend]; exact h.bounds, by rw [hreg, hend]; exact h.mem,
    by rw [hreg, hend]; exact h.nonmem, by rw [hend]; exact h.failedEnd, by rw [hend]; exact h.cur,
    by rw [hlive, windowOf, hreg, hend]; exact h.main⟩

theorem DSub.publish {c : Cfg} {i : SubId} {st : SubSt} {m f f' : Prop} [Decidable m] {pend pend' log : List PubId}
    (h : DSub c i st m f pend log) (hp : pend = []) (hf : ¬ f) (hf' : ¬ f') (p : PubId)
    (hp' : pend' = if m ∧ matchesP c i p = true then [p] else []) : DSub c i st m f' pend' (log ++ [p]) := by
  subst hp
  have hend : m → st.endAt = none := fun hm => (h.mem hm).2.resolve_right hf
  have hlen : (log ++ [p]).length = log.length + 1 := List.length_append
  refine ⟨h.fresh, h.lenOK, fun a ha => ?_, fun hm => ⟨(h.mem hm).1, Or.inl (hend hm)⟩, h.nonmem,
    fun x => absurd x hf', fun q hq => ?_, ?_⟩
  · obtain ⟨h1, h2⟩ := h.bounds a ha
    exact ⟨by rw [hlen]; exact Nat.le_succ_of_le h1, fun b hb => ⟨(h2 b hb).1, by rw [hlen]; exact Nat.le_succ_of_le (h2 b hb).2⟩⟩
  · rw [hp'] at hq
    split at hq
    · rename_i hmm; cases List.mem_singleton.mp hq; exact ⟨hmm.2, hend hmm.1⟩
    · cases hq
  · have hmain := h.main
    rw [List.append_nil] at hmain
    cases hreg : st.regAt with
    | none =>
      -- not registered: nothing sent, nothing pending
      have hm : ¬ m := fun hm => (h.mem hm).1 hreg
      rw [windowOf_none hreg] at hmain ⊢
      rw [hmain, hp', if_neg fun x => hm x.1]; rfl
    | some a =>
      obtain ⟨hale, hb⟩ := h.bounds a hreg
      rw [windowOf_some hreg] at hmain ⊢
      by_cases hm : m
      · -- the window is open: it grows by `p`
        rw [hend hm] at hmain ⊢
        rw [Option.getD_none, List.take_length] at hmain
        rw [Option.getD_none, List.take_length, List.drop_append_of_le_length hale, List.filter_append, hmain, hp']
        by_cases hmat : matchesP c i p = true
        · rw [if_pos ⟨hm, hmat⟩, List.filter_cons_of_pos hmat]; rfl
        · rw [if_neg fun x => hmat x.2, List.filter_cons_of_neg hmat]; rfl
      · -- the window has ended, within the old log
        obtain ⟨b, hbe⟩ := Option.ne_none_iff_exists'.mp (h.nonmem hm (by rw [hreg]; nofun))
        rw [hbe, Option.getD_some] at hmain ⊢
        rw [List.take_append_of_le_length (hb b hbe).2, hmain, hp', if_neg fun x => hm x.1, List.append_nil]

theorem livePubs_visit (st : SubSt) (p : PubId) (a b : Bool) (hl : st.replayed ≤ st.calls.length) :
    livePubs { st with calls := st.calls ++ [Call.send p a] ++ (if a then [Call.flush b] else []) } = livePubs st ++ [p] := by
  simp only [livePubs]
  rw [List.append_assoc, List.drop_append_of_le_length hl, pubsOf_append]
  cases a <;> simp [pubsOf]

theorem DSub.visit {c : Cfg} {i : SubId} {st : SubSt} {m f f' : Prop} {pend pend' log : List PubId} {p : PubId}
    (h : DSub c i st m f pend log) (hp : pend = [p]) (hp' : pend' = []) (hf' : ¬ f') (a b : Bool) :
    DSub c i { st with calls := st.calls ++ [.send p a] ++ (if a then [.flush b] else []) } m f' pend' log := by
  subst hp hp'
  refine ⟨fun hpc => ?_, ?_, h.bounds, fun hm => ⟨(h.mem hm).1, Or.inl (h.cur p List.mem_cons_self).2⟩, h.nonmem,
    fun x => absurd x hf', nofun, ?_⟩
  · -- a subscription not yet accepted has no window, so nothing is pending for it
    have := h.main
    rw [windowOf_none (h.fresh hpc).2.2.1] at this
    exact absurd (List.append_eq_nil_iff.mp this).2 (List.cons_ne_nil _ _)
  · rw [List.append_assoc, List.length_append]; exact Nat.le_trans h.lenOK (Nat.le_add_right _ _)
  · rw [livePubs_visit _ _ _ _ h.lenOK, List.append_nil]; exact h.main

theorem dsub_registered {c : Cfg} {i : SubId} {st : SubSt} {m f : Prop} {pend log : List PubId} (hpc : st.pc = .waiting)
    (hrep : st.replayed = st.calls.length) (hreg : st.regAt = some log.length) (hend : st.endAt = none) (hm : m)
    (hf : ¬ f) (hp : pend = []) : DSub c i st m f pend log := by
  subst hp
  refine ⟨fun h => ?_, Nat.le_of_eq hrep, fun a ha => ?_, fun _ => ⟨by rw [hreg]; nofun, Or.inl hend⟩,
    fun h => absurd hm h, fun h => absurd h hf, nofun, ?_⟩
  · rw [hpc] at h; rcases h with h | h <;> cases h
  · rw [hreg] at ha; cases ha
    exact ⟨Nat.le_refl _, fun b hb => by rw [hend] at hb; cases hb⟩
  · rw [windowOf_some hreg, hend, Option.getD_none, List.take_length, List.drop_length, livePubs, hrep,
      List.drop_length]; rfl

theorem DSub.close {c : Cfg} {i : SubId} {st st' : SubSt} {m f m' f' : Prop} {pend pend' log : List PubId}
    (h : DSub c i st m f pend log) (hm : m) (hp : pend = []) (hp' : pend' = []) (hcalls : st'.calls = st.calls)
    (hrep : st'.replayed = st.replayed) (hreg : st'.regAt = st.regAt)
    (hend : st'.endAt = st.endAt.or (some log.length)) (hpc : ¬ (st'.pc = .idle ∨ st'.pc = .start))
    (hmf : m' → f') : DSub c i st' m' f' pend' log := by
  subst hp hp'
  have hend' : st'.endAt = some (st.endAt.getD log.length) := by rw [hend]; cases st.endAt <;> rfl
  have hclosed : st'.endAt ≠ none := by rw [hend']; nofun
  refine ⟨fun x => absurd x hpc, by rw [hcalls, hrep]; exact h.lenOK, fun a ha => ?_,
    fun x => ⟨by rw [hreg]; exact (h.mem hm).1, Or.inr (hmf x)⟩, fun _ _ => hclosed, fun _ => hclosed, nofun, ?_⟩
  · rw [hreg] at ha
    refine ⟨(h.bounds a ha).1, fun b hb => ?_⟩
    rw [hend'] at hb; cases hb
    cases he : st.endAt with
    | none => exact ⟨(h.bounds a ha).1, Nat.le_refl _⟩
    | some b => exact (h.bounds a ha).2 b he
  · have := h.main
    rw [livePubs, hcalls, hrep]
    cases hr : st.regAt with
    | none => rw [windowOf_none (hreg.trans hr)]; rw [windowOf_none hr] at this; exact this
    | some a =>
      rw [windowOf_some (hreg.trans hr), hend', Option.getD_some]; rw [windowOf_some hr] at this; exact this

theorem step_dinv {c : Cfg} {s s' : St} (hi : Inv s) (h : DInv c s) (l : Label) (hs : step c s l = some s') : DInv c s' := by
  have idle : s.joe = .idle → ∀ i, pendingFor s i = [] := fun hj => pendingFor_none (by rw [hj]; rfl)
  cases step_trans hi hs with
  | subCall i hpc =>
    exact dinv_setSub h i _ ((h.sub i).upd (fun _ => h.fresh i (Or.inl hpc)) (h.lenOK i) rfl rfl rfl)
  | subAccept i rc o hpc hj =>
    obtain ⟨hcalls, _, _, hend⟩ := h.fresh i (Or.inr hpc)
    exact dinv_set h i rfl rfl rfl (fun k hk => List.mem_cons.trans (or_iff_right hk)) (fun _ _ => Iff.rfl)
      (fun _ _ => rfl) (dsub_registered rfl (by rw [hcalls]; rfl) rfl hend List.mem_cons_self (by rw [hj]; nofun) (idle hj i))
  | subAcceptErr i rc hpc hj =>
    obtain ⟨hcalls, hrep, _, _⟩ := h.fresh i (Or.inr hpc)
    refine dinv_setSub h i _ ((h.sub i).upd nofun ?_ rfl rfl ?_)
    · show rc.length ≤ ((s.subs i).calls ++ rc).length
      rw [hcalls]; exact Nat.le_refl _
    · show pubsOf (((s.subs i).calls ++ rc).drop rc.length) = pubsOf ((s.subs i).calls.drop (s.subs i).replayed)
      rw [hcalls, hrep, List.nil_append, List.drop_length]; rfl
  | subClosedEarly i | subSeeCancel i | subRecvErr i | subRecvClosed i | unsubAcceptGone i =>
    exact dinv_setSub h i _ ((h.sub i).upd nofun (h.lenOK i) rfl rfl rfl)
  | cancel i => exact dinv_setSub h i _ ((h.sub i).upd (h.fresh i) (h.lenOK i) rfl rfl rfl)
  | unsubAcceptMem i hpc hj hm =>
    exact dinv_set h i rfl rfl rfl (fun _ hk => List.mem_erase_of_ne hk) (fun _ _ => Iff.rfl) (fun _ _ => rfl)
      ((h.sub i).close hm (idle hj i) (idle hj i) rfl rfl rfl rfl nofun fun hm' => absurd hm' hi.nodup.not_mem_erase)
  | pubAccept p o hpc hj =>
    refine dinv_of_sub (fun p' rest' hr => by cases hr; exact List.getLast?_concat) fun i => ?_
    refine (h.sub i).publish (idle hj i) (by rw [hj]; nofun) nofun p ?_
    show (if i ∈ s.subscribers.filter _ then [p] else []) = _
    simp only [List.mem_filter]
  | fanStepOk i a b p rest hj hm =>
    have hr : restOf s.joe = some (p, rest) := by rw [hj]; rfl
    have hnd := (hi.fan p rest hj).1
    exact dinv_set h i rfl rfl (by rw [hr]; rfl) (fun _ _ => Iff.rfl) (fun _ _ => by rw [hj]; exact ⟨nofun, nofun⟩)
      (fun k hk => pendingFor_congr hr rfl (List.mem_erase_of_ne hk))
      ((h.sub i).visit ((pendingFor_some hr i).trans (if_pos hm))
        ((pendingFor_some rfl i).trans (if_neg hnd.not_mem_erase)) nofun a b)
  | fanStepFail i a b p rest hj hm hab his =>
    -- a visit, after which the loop places `i`'s error
    have hr : restOf s.joe = some (p, rest) := by rw [hj]; rfl
    have hnd := (hi.fan p rest hj).1
    have hend := ((h.cur p rest hr).2 i hm).2
    refine dinv_set h i rfl rfl (by rw [hr]; rfl) (fun _ _ => Iff.rfl) (fun k hk => ?_)
      (fun k hk => pendingFor_congr hr rfl (List.mem_erase_of_ne hk)) ?_
    · rw [hj]; exact ⟨fun ⟨_, _, e⟩ => by cases e; exact absurd rfl hk, nofun⟩
    · exact ((h.sub i).visit ((pendingFor_some hr i).trans (if_pos hm)) rfl not_false a b).close his rfl
        ((pendingFor_some rfl i).trans (if_neg hnd.not_mem_erase)) rfl rfl rfl (by rw [hend]; rfl)
        (fun hp => absurd his (hi.fresh i hp).2) fun _ => ⟨p, _, rfl⟩
  | fanRemove p i rest hj hm =>
    have hr : restOf s.joe = some (p, rest) := by rw [hj]; rfl
    have hni : i ∉ rest := (hi.fail p i rest hj).2.2.2
    refine dinv_set h i rfl rfl (by rw [hr]; rfl) (fun _ hk => List.mem_erase_of_ne hk) (fun k hk => ?_)
      (fun k hk => pendingFor_congr hr rfl Iff.rfl) ?_
    · rw [hj]; exact ⟨nofun, fun ⟨_, _, e⟩ => by cases e; exact absurd rfl hk⟩
    · exact (h.sub i).close hm ((pendingFor_some hr i).trans (if_neg hni)) ((pendingFor_some rfl i).trans (if_neg hni))
        rfl rfl rfl rfl (fun hp => absurd hm (hi.fresh i hp).2) fun hm' => absurd hm' hi.nodup.not_mem_erase
  | fanDone p hj =>
    have hr : restOf s.joe = some (p, []) := by rw [hj]; rfl
    exact dinv_of_sub nofun fun k => (h.sub k).congr Iff.rfl (by rw [hj]; exact ⟨nofun, nofun⟩)
      ((pendingFor_some hr k).trans (if_neg List.not_mem_nil)).symm
  | loopExit hj =>
    refine dinv_of_sub nofun fun k => ?_
    show DSub c k (if k ∈ s.subscribers then closedSub (s.subs k) s.log.length else s.subs k) (k ∈ []) _ [] _
    split
    · rename_i hm
      exact (h.sub k).close hm (idle hj k) rfl rfl rfl rfl rfl (fun hp => absurd hm (hi.fresh k hp).2) nofun
    · rename_i hm
      exact (h.sub k).congr ⟨nofun, fun x => absurd x hm⟩ (by rw [hj]; exact ⟨nofun, nofun⟩) (idle hj k).symm
  | _ => exact dinv_congr h rfl rfl rfl rfl

theorem reachable_dinv {c : Cfg} {s : St} (h : Reachable c s) : Inv s ∧ DInv c s := by
  induction h with
  | init hi => exact ⟨inv_init hi, dinv_init hi⟩
  | step _ hs ih => exact ⟨step_inv ih.1 _ hs, step_dinv ih.1 ih.2 _ hs⟩

end GoSSE.Proofs.Joe
