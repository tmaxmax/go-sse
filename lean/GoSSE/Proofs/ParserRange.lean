import GoSSE.Proofs.ParserSplit
/-!
Index facts about `splitFunc` (C20): every index stays within the buffer.
-/
namespace GoSSE.Proofs
open GoSSE GoSSE.Spec GoSSE.Model

/-- one iteration of the loop keeps `rest = data[advance:]` in step with `advance`: the byte
`data[advance]` the exit test looks at exists unless `advance == len(data)` (which Go tests first) -/
theorem splitLoop_step_range (len : Nat) (rest : Bytes) (adv : Nat) (h : adv + rest.length = len) :
    let r := newlineIndex rest
    adv + r.1 + r.2 + (rest.drop (r.1 + r.2)).length = len ∧
    (rest.drop (r.1 + r.2) = [] ↔ adv + r.1 + r.2 = len) := by
  intro r
  have hle : r.1 + r.2 ≤ rest.length := newlineIndex_le rest
  clear_value r
  rw [List.length_drop, List.drop_eq_nil_iff]
  omega

theorem splitLoop_range (len fuel : Nat) (rest : Bytes) (adv st : Nat) (h : adv + rest.length = len)
    (hst : st ≤ adv) :
    (splitLoop len fuel rest adv st).2 ≤ (splitLoop len fuel rest adv st).1 ∧
    (splitLoop len fuel rest adv st).1 ≤ len := by
  generalize hr : splitLoop len fuel rest adv st = r
  induction fuel generalizing rest adv st with
  | zero => rw [splitLoop] at hr; subst hr; exact ⟨hst, Nat.le.intro h⟩
  | succ fuel ih =>
    have hle := newlineIndex_le rest
    obtain ⟨h1, _⟩ := splitLoop_step_range len rest adv h
    rw [splitLoop] at hr
    generalize newlineIndex rest = q at hle h1 hr
    have hst' : (if (q.1 == 0) = true then st + q.2 else st) ≤ adv + q.1 + q.2 := by split <;> omega
    split at hr
    · subst hr; exact ⟨hst', by omega⟩
    · exact ih _ _ _ h1 hst' hr

theorem splitFunc_loop_range (data : Bytes) :
    (splitLoop data.length (data.length + 1) data 0 0).2 ≤ (splitLoop data.length (data.length + 1) data 0 0).1 ∧
    (splitLoop data.length (data.length + 1) data 0 0).1 ≤ data.length :=
  splitLoop_range data.length _ data 0 0 (by simp) (Nat.le_refl _)

/-- `token = data[start:advance]` with `start ≤ advance ≤ len(data)`, and a token always
comes with a positive advance -/
theorem splitFunc_token_range (data : Bytes) (e : Bool) (tok : Bytes) (h : (splitFunc data e).2 = some tok) :
    0 < (splitFunc data e).1 ∧ (splitFunc data e).1 ≤ data.length ∧
    (splitLoop data.length (data.length + 1) data 0 0).2 ≤ (splitFunc data e).1 ∧
    tok = (data.take (splitFunc data e).1).drop (splitLoop data.length (data.length + 1) data 0 0).2 := by
  cases splitFunc_cases data e with
  | empty hd hr => rw [hr] at h; cases h
  | more B T he hd hB hT _ hr => rw [hr] at h; cases h
  | tok B T nl rest hd hB hT hl hcr hnl _ hr hloop =>
    have := hnl.pos
    rw [hr] at h
    obtain rfl : T ++ nl = tok := Option.some.inj h
    rw [hr, hloop]
    refine ⟨?_, ?_, ?_, ?_⟩
    · simp only [List.length_append]; omega
    · simp only [hd, List.length_append]; omega
    · simp only [List.length_append]; omega
    · rw [hd, List.take_left' rfl, List.append_assoc B, List.drop_left]
  | final B T he hd hne hB hT _ hr hloop =>
    rw [hr] at h
    obtain rfl : T = tok := Option.some.inj h
    rw [hr, hloop, List.take_length]
    refine ⟨List.length_pos_iff.2 hne, Nat.le_refl _, ?_, ?_⟩
    · rw [hd, List.length_append]; omega
    · rw [hd, List.drop_left]

end GoSSE.Proofs
