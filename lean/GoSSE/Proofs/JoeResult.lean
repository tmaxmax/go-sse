import GoSSE.Proofs.JoeMore
/-!
What a Subscribe call can return (C06): invariants about the contents of a subscription's channel.
-/
namespace GoSSE.Proofs.Joe
open GoSSE.Model.Joe

def GoodResult (i : SubId) (cancelledOrDone : Bool) (r : Option Err) : Prop :=
  (r = none ∧ cancelledOrDone = true) ∨ r = some (.own i) ∨ r = some (.replay i) ∨ r = some .closed

structure JInv (s : St) : Prop where
  bufOwn : ∀ i e, (s.subs i).ch.buf = some e → e = .own i ∨ e = .replay i
  closedEmpty : ∀ i, (s.subs i).ch.closed = true → (s.subs i).ch.buf = none →
    (∃ r, (s.subs i).pc = .returned r) ∨ s.doneClosed = true
  result : ∀ i r, (s.subs i).pc = .returned r → GoodResult i ((s.subs i).ctxCancelled || s.doneClosed) r
  failedBuf : ∀ p i rest, s.joe = .failed p i rest →
    (s.subs i).ch.buf = some (.own i) ∨ ∃ r, (s.subs i).pc = .returned r
  ownErr : ∀ i, failedLive (s.subs i) = true →
    ((s.subs i).ch.buf = some (.own i) ∧ ∀ r, (s.subs i).pc = .returned r → (s.subs i).ctxCancelled = true) ∨
    ∃ r, (s.subs i).pc = .returned r ∧ (r = some (.own i) ∨ (s.subs i).ctxCancelled = true)

theorem jinv_init {s : St} (h : IsInit s) : JInv s := by
  obtain ⟨hj, _, _, _, _, _, hsub, _, _⟩ := h
  refine ⟨?_, ?_, ?_, by simp [hj], ?_⟩
  · intro i e he; simp [(hsub i).2.2.1] at he
  · intro i hc; simp [(hsub i).2.2.1] at hc
  · intro i r hr; simp [(hsub i).1] at hr
  · intro i hf; simp [failedLive, (hsub i).2.2.2.1] at hf

theorem goodResult_mono {i : SubId} {a b : Bool} {r : Option Err} (h : GoodResult i a r) (hab : a = true → b = true) :
    GoodResult i b r :=
  h.imp (fun ⟨h1, h2⟩ => ⟨h1, hab h2⟩) id

/-- the clauses of `JInv` about subscription `i`, given whether `done` is closed and where the loop is -/
structure JSub (i : SubId) (st : SubSt) (done : Bool) (j : JoePc) : Prop where
  bufOwn : ∀ e, st.ch.buf = some e → e = .own i ∨ e = .replay i
  closedEmpty : st.ch.closed = true → st.ch.buf = none → (∃ r, st.pc = .returned r) ∨ done = true
  result : ∀ r, st.pc = .returned r → GoodResult i (st.ctxCancelled || done) r
  failedBuf : ∀ p rest, j = .failed p i rest → st.ch.buf = some (.own i) ∨ ∃ r, st.pc = .returned r
  ownErr : failedLive st = true →
    (st.ch.buf = some (.own i) ∧ ∀ r, st.pc = .returned r → st.ctxCancelled = true) ∨
    ∃ r, st.pc = .returned r ∧ (r = some (.own i) ∨ st.ctxCancelled = true)

theorem JInv.sub {s : St} (h : JInv s) (i : SubId) : JSub i (s.subs i) s.doneClosed s.joe :=
  ⟨h.bufOwn i, h.closedEmpty i, h.result i, fun p rest => h.failedBuf p i rest, h.ownErr i⟩

theorem jinv_of_sub {s : St} (h : ∀ i, JSub i (s.subs i) s.doneClosed s.joe) : JInv s :=
  ⟨fun i => (h i).bufOwn, fun i => (h i).closedEmpty, fun i => (h i).result, fun p i rest => (h i).failedBuf p rest,
    fun i => (h i).ownErr⟩

theorem JSub.mono {i : SubId} {st : SubSt} {d d' : Bool} {j j' : JoePc} (h : JSub i st d j) (hd : d = true → d' = true)
    (hj : ∀ p rest, j' = .failed p i rest → j = .failed p i rest) : JSub i st d' j' :=
  ⟨h.bufOwn, fun hc hb => (h.closedEmpty hc hb).imp_right hd,
    fun r hr => goodResult_mono (h.result r hr) fun hx => by
      simp only [Bool.or_eq_true] at hx ⊢; exact hx.imp_right hd,
    fun p rest hf => h.failedBuf p rest (hj p rest hf), h.ownErr⟩

theorem jsub_returned {i : SubId} {st : SubSt} {d : Bool} {j : JoePc} (r : Option Err) (hpc : st.pc = .returned r)
    (hb : ∀ e, st.ch.buf = some e → e = .own i ∨ e = .replay i) (hres : GoodResult i (st.ctxCancelled || d) r)
    (hown : failedLive st = true → r = some (.own i) ∨ st.ctxCancelled = true) : JSub i st d j :=
  ⟨hb, fun _ _ => Or.inl ⟨r, hpc⟩, fun r' hr' => (by rw [hpc] at hr'; cases hr'; exact hres),
    fun _ _ _ => Or.inr ⟨r, hpc⟩, fun hf => Or.inr ⟨r, hpc, hown hf⟩⟩

theorem jsub_accepted {i : SubId} {st : SubSt} {d : Bool} {j : JoePc} (hpc : st.pc = .waiting)
    (hb : ∀ e, st.ch.buf = some e → e = .replay i) (hce : st.ch.closed = true → st.ch.buf ≠ none)
    (hrep : st.replayed = st.calls.length) (hj : ∀ p rest, j ≠ .failed p i rest) : JSub i st d j :=
  ⟨fun e he => Or.inr (hb e he), fun hc hn => absurd hn (hce hc), fun _ hr => (nomatch hpc.symm.trans hr),
    fun p rest e => absurd e (hj p rest), fun h => by
      simp only [failedLive, hrep, List.drop_length, List.any_nil] at h; cases h⟩

theorem jsub_failed {i : SubId} {st : SubSt} {d : Bool} {j : JoePc} (hnr : ∀ r, st.pc ≠ .returned r)
    (hch : st.ch = ⟨some (.own i), false⟩) : JSub i st d j :=
  ⟨fun e he => (by rw [hch] at he; cases he; exact Or.inl rfl), fun hc => (by rw [hch] at hc; cases hc),
    fun r hr => absurd hr (hnr r), fun _ _ _ => Or.inl (by rw [hch]),
    fun _ => Or.inl ⟨by rw [hch], fun r hr => absurd hr (hnr r)⟩⟩

theorem JSub.setPc {i : SubId} {st : SubSt} {d : Bool} {j : JoePc} (h : JSub i st d j)
    (hn : ∀ r, st.pc ≠ .returned r) (pc' : SubPc) (hn' : ∀ r, pc' ≠ .returned r) : JSub i { st with pc := pc' } d j :=
  ⟨h.bufOwn, fun hc hb => (h.closedEmpty hc hb).imp_left fun ⟨r, hr⟩ => absurd hr (hn r), fun r hr => absurd hr (hn' r),
    fun p rest hf => (h.failedBuf p rest hf).imp_right fun ⟨r, hr⟩ => absurd hr (hn r),
    fun hf => (h.ownErr hf).elim (fun x => Or.inl ⟨x.1, fun r hr => absurd hr (hn' r)⟩) fun ⟨r, hr, _⟩ => absurd hr (hn r)⟩

theorem JSub.cancel {i : SubId} {st : SubSt} {d : Bool} {j : JoePc} (h : JSub i st d j) :
    JSub i { st with ctxCancelled := true } d j :=
  ⟨h.bufOwn, h.closedEmpty, fun r hr => goodResult_mono (h.result r hr) fun _ => rfl, h.failedBuf,
    fun hf => (h.ownErr hf).elim (fun x => Or.inl ⟨x.1, fun _ _ => rfl⟩) fun ⟨r, hr, _⟩ => Or.inr ⟨r, hr, Or.inr rfl⟩⟩

theorem JSub.setCalls {i : SubId} {st : SubSt} {d : Bool} {j : JoePc} (h : JSub i st d j) (calls : List Call)
    (hf : failedLive { st with calls := calls } = true → failedLive st = true) : JSub i { st with calls := calls } d j :=
  ⟨h.bufOwn, h.closedEmpty, h.result, h.failedBuf, fun hf' => h.ownErr (hf hf')⟩

theorem JSub.closedSub {i : SubId} {st : SubSt} {d : Bool} {j : JoePc} (h : JSub i st d j) (n : Nat)
    (why : st.ch.buf = none → (∃ r, st.pc = .returned r) ∨ d = true) : JSub i (closedSub st n) d j :=
  ⟨h.bufOwn, fun _ hb => why hb, h.result, h.failedBuf, h.ownErr⟩

theorem jinv_upd {s s' : St} (h : JInv s) (i : SubId) {st : SubSt} (hsub : s'.subs = upd s.subs i st)
    (hi : JSub i st s'.doneClosed s'.joe) (hd : s.doneClosed = true → s'.doneClosed = true)
    (hj : ∀ p k rest, s'.joe = .failed p k rest → k ≠ i → s.joe = .failed p k rest) : JInv s' := by
  refine jinv_of_sub fun k => ?_
  rw [hsub]
  by_cases hki : k = i
  · subst hki; rw [upd_same]; exact hi
  · rw [upd_other _ _ _ _ hki]; exact (h.sub k).mono hd fun p rest hf => hj p k rest hf hki

theorem jinv_setSub {s : St} (h : JInv s) (i : SubId) {st : SubSt} (hi : JSub i st s.doneClosed s.joe) :
    JInv (setSub s i st) :=
  jinv_upd h i rfl hi id fun _ _ _ hf _ => hf

theorem jinv_mono {s s' : St} (h : JInv s) (hsub : s'.subs = s.subs) (hd : s.doneClosed = true → s'.doneClosed = true)
    (hj : ∀ p k rest, s'.joe = .failed p k rest → s.joe = .failed p k rest) : JInv s' :=
  jinv_of_sub fun k => by rw [hsub]; exact (h.sub k).mono hd fun p rest => hj p k rest

theorem step_jinv {c : Cfg} {s s' : St} (hi : Inv s) (hd : DInv c s) (hx : XInv s) (h : JInv s) (l : Label)
    (hs : step c s l = some s') : JInv s' := by
  -- a call about to be accepted has had no calls on its MessageWriter, so all it gets now are replayed ones
  have fresh : ∀ i, (s.subs i).pc = .start → failedLive (s.subs i) = false := fun i hpc => by
    simp only [failedLive, (hd.fresh i (Or.inr hpc)).1, List.drop_nil, List.any_nil]
  have replayed : ∀ i (rc : List Call), (s.subs i).pc = .start → rc.length = ((s.subs i).calls ++ rc).length :=
    fun i rc hpc => by rw [(hd.fresh i (Or.inr hpc)).1]; rfl
  have cancelled : ∀ i, (s.subs i).pc = .cancelled → GoodResult i ((s.subs i).ctxCancelled || s.doneClosed) none :=
    fun i hpc => Or.inl ⟨rfl, by rw [hx.cancelled i hpc]; rfl⟩
  have waiting : ∀ i, (s.subs i).pc = .waiting ∨ (s.subs i).pc = .cancelled → ∀ r, (s.subs i).pc ≠ .returned r :=
    fun i hpc r hr => by rcases hpc with e | e <;> (rw [e] at hr; cases hr)
  -- while the loop fans out, no registered subscriber's call has returned
  have visited : ∀ i p rest, s.joe = .fanout p rest → i ∈ s.subscribers → ∀ r, (s.subs i).pc ≠ .returned r :=
    fun i p rest hj his r hr => (hi.ret i r hr).elim (fun x => x his) fun ⟨_, _, hf⟩ => by rw [hj] at hf; cases hf
  cases step_trans hi hs with
  | subCall i hpc => exact jinv_setSub h i ((h.sub i).setPc (by rw [hpc]; nofun) _ nofun)
  | subAccept i rc o hpc hj =>
    obtain ⟨hch, _⟩ := hi.fresh i (Or.inr hpc)
    have hb : (s.subs i).ch.buf = none := by rw [hch]
    have hcl : (s.subs i).ch.closed = false := by rw [hch]
    exact jinv_upd h i rfl (jsub_accepted rfl (fun e he => nomatch hb.symm.trans he)
      (fun hc => nomatch hcl.symm.trans hc) (replayed i rc hpc) (by rw [hj]; nofun)) id fun _ _ _ hf _ => hf
  | subAcceptErr i rc hpc hj =>
    exact jinv_setSub h i (jsub_accepted rfl (fun e he => by cases he; rfl) (fun _ => nofun) (replayed i rc hpc)
      (by rw [hj]; nofun))
  | subClosedEarly i hpc =>
    exact jinv_setSub h i (jsub_returned _ rfl (h.bufOwn i) (Or.inr (Or.inr (Or.inr rfl)))
      fun hf => nomatch (fresh i hpc).symm.trans hf)
  | subSeeCancel i hpc => exact jinv_setSub h i ((h.sub i).setPc (by rw [hpc]; nofun) _ nofun)
  | subRecvErr i e hpc hb =>
    -- the error received is the subscription's own or its replay's; if a live call failed it is its own
    refine jinv_setSub h i (jsub_returned _ rfl nofun ?_ fun hf => Or.inl ?_)
    · exact (h.bufOwn i e hb).elim (fun x => Or.inr (Or.inl (congrArg some x)))
        fun x => Or.inr (Or.inr (Or.inl (congrArg some x)))
    · exact (h.ownErr i hf).elim (fun x => hb.symm.trans x.1) fun ⟨r, hr, _⟩ => absurd hr (waiting i hpc r)
  | subRecvClosed i hpc hb hcl =>
    -- the channel was closed with nothing in it: only the exiting loop does that
    have hdone := (h.closedEmpty i hcl hb).resolve_left fun ⟨r, hr⟩ => waiting i hpc r hr
    refine jinv_setSub h i (jsub_returned _ rfl (h.bufOwn i) (Or.inl ⟨rfl, by rw [hdone, Bool.or_true]⟩) fun hf => ?_)
    exact (h.ownErr i hf).elim (fun x => nomatch hb.symm.trans x.1)
      fun ⟨r, hr, _⟩ => absurd hr (waiting i hpc r)
  | unsubAcceptMem i hpc =>
    exact jinv_upd h i rfl (jsub_returned _ rfl (h.bufOwn i) (cancelled i hpc) fun _ => Or.inr (hx.cancelled i hpc))
      id fun _ _ _ hf _ => hf
  | unsubAcceptGone i hpc =>
    exact jinv_setSub h i (jsub_returned _ rfl (h.bufOwn i) (cancelled i hpc) fun _ => Or.inr (hx.cancelled i hpc))
  | cancel i => exact jinv_setSub h i (h.sub i).cancel
  | fanStepOk i a b p rest hj hm hab his =>
    refine jinv_upd h i rfl (((h.sub i).setCalls _ fun hf => ?_).mono id nofun) id nofun
    rwa [failedLive_visit _ _ _ _ (hd.lenOK i), hab, Bool.not_true, Bool.or_false] at hf
  | fanStepFail i a b p rest hj hm hab his =>
    exact jinv_upd h i rfl (jsub_failed (visited i p rest hj his) rfl) id
      fun _ _ _ hf hki => by cases hf; exact absurd rfl hki
  | fanRemove p i rest hj =>
    -- the channel closed here holds the subscriber's error, unless its call has returned with it
    exact jinv_upd h i rfl (((h.sub i).closedSub _ fun hb =>
      Or.inl ((h.failedBuf p i rest hj).resolve_left (by rw [hb]; nofun))).mono id nofun) id nofun
  | loopExit hj hdone =>
    refine jinv_of_sub fun k => ?_
    show JSub k (if k ∈ s.subscribers then closedSub (s.subs k) s.log.length else s.subs k) s.doneClosed .exited
    split
    · exact ((h.sub k).closedSub _ fun _ => Or.inr hdone).mono id nofun
    · exact (h.sub k).mono id nofun
  | pubAccept | fanDone => exact jinv_mono h rfl id nofun
  | shutClose => exact jinv_mono h rfl (fun _ => rfl) fun _ _ _ hf => hf
  | _ => exact jinv_mono h rfl id fun _ _ _ hf => hf

theorem reachable_jinv {c : Cfg} {s : St} (h : Reachable c s) : JInv s := by
  induction h with
  | init hi => exact jinv_init hi
  | step hr hs ih =>
    have hall := reachable_all hr
    exact step_jinv hall.1 hall.2.1 hall.2.2 ih _ hs

end GoSSE.Proofs.Joe
