import GoSSE.Proofs.ParserRun
/-!
The refinement at the scale of one token, without scanner or source: `drainFP` takes all fields of one token from
the `FieldParser`; that is the specification's `interp` on the token's lines (`token_fields`), also for a token cut
by one `splitFunc` call from a buffer, blank lines in front included (`token_step`).
-/
namespace GoSSE.Proofs
open GoSSE GoSSE.Spec GoSSE.Model

/-- `read()` restricted to one token: take fields from the `FieldParser` until it has none -/
def drainFP (conn : Bool) : Nat → FP → RState → List Out → FP × RState × List Out
  | 0, f, st, outs => (f, st, outs)
  | n + 1, f, st, outs =>
    match FP.next (f.data.length + 1) f with
    | (some fld, f') => drainFP conn n f' (readField conn st fld).1 (outs ++ (readField conn st fld).2)
    | (none, f') => (f', st, outs)

theorem drainFP_feed (conn : Bool) (n : Nat) (f : FP) (st : RState) (outs : List Out) (sk : Bool)
    (hk : f.keepComments = false) (hn : f.data.length < n) (hclean : CleanInv st)
    (hsk : sk = true → f.data.head? ≠ some 10) :
    ∃ sk' X, feed conn ⟨toI st, [], sk⟩ f.data =
        (⟨toI (drainFP conn n f st outs).2.1, (drainFP conn n f st outs).1.data.reverse, sk'⟩, X) ∧
      (drainFP conn n f st outs).2.2 = outs ++ X ∧ CleanInv (drainFP conn n f st outs).2.1 ∧
      (drainFP conn n f st outs).1.err = (f.err || !(drainFP conn n f st outs).1.data.isEmpty) := by
  induction n generalizing f st outs sk with
  | zero => omega
  | succ n ih =>
    have hpost := FP_next_feed conn (f.data.length + 1) f st sk hk (by omega) hclean hsk
    rw [drainFP]
    generalize FP.next (f.data.length + 1) f = R at hpost
    cases hpost with
    | field fld f' C sk1 hkc _ hdata hC hfeed hskip hclean' herr _ =>
      have hlen : f'.data.length < n := by
        have := congrArg List.length hdata
        have := List.length_pos_iff.2 hC
        simp only [List.length_append] at *; omega
      obtain ⟨sk', X, e1, e2, e3, e4⟩ := ih f' (readField conn st fld).1 (outs ++ (readField conn st fld).2) sk1
        (hkc.trans hk) hlen hclean' hskip
      refine ⟨sk', (readField conn st fld).2 ++ X, ?_, by rw [e2, List.append_assoc], e3, by rw [e4, herr]⟩
      rw [hdata, feed_append, hfeed, e1]
    | rest f' sk1 _ _ hfeed _ herr _ =>
      exact ⟨sk1, [], hfeed, by simp, hclean, herr⟩

theorem token_fields (conn : Bool) (tok : Bytes) (st : RState) (h : CleanInv st) :
    let r := drainFP conn (tok.length + 1) { data := tok } st []
    let sp := splitLines tok [] false
    interp .gosse conn (toI st) sp.1 = (toI r.2.1, r.2.2) ∧ r.1.err = !sp.2.isEmpty := by
  intro r sp
  obtain ⟨sk', X, e1, e2, _, e4⟩ := drainFP_feed conn (tok.length + 1) { data := tok } st [] false rfl
    (by simp) h (by simp)
  obtain ⟨hi, hs⟩ := interp_of_feed e1
  exact ⟨hi.trans (by rw [e2]; rfl), by rw [e4, hs, List.reverse_reverse]; rfl⟩

theorem token_step (conn : Bool) (data : Bytes) (adv : Nat) (tok : Bytes) (st : RState) (sk : Bool)
    (hsplit : splitFunc data false = (adv, some tok)) (h : CleanInv st) (hb : Boundary (toI st)) :
    let r := drainFP conn (tok.length + 1) { data := tok } st []
    let sp := splitLines (data.take adv) [] sk
    interp .gosse conn (toI st) sp.1 = (toI r.2.1, r.2.2) ∧ sp.2 = [] ∧
    Boundary (toI r.2.1) ∧ r.1.err = false ∧ adv ≤ data.length := by
  intro r sp
  obtain ⟨B, hD, hB, hadv, hpos, hhead, hshape⟩ := tok_shape data false adv tok hsplit
  have htake : data.take adv = B ++ tok := by
    rw [hD]; exact List.take_left' (by rw [hadv, List.length_append])
  have hle : adv ≤ data.length := by
    have := congrArg List.length hD
    simp only [List.length_append] at this; omega
  obtain ⟨sk2, hbl⟩ := feed_blanks conn (toI st) sk B hb hB
  obtain ⟨sk', X, e1, e2, _, e4⟩ := drainFP_feed conn (tok.length + 1) { data := tok } st [] sk2 rfl
    (by simp) h fun _ => hhead
  rcases hshape with ⟨T, nl, rest, ht, hl, hcr, hnl⟩ | ⟨he, _⟩
  · obtain ⟨hacc, hbound⟩ := feed_token_boundary conn ⟨toI st, [], sk2⟩ T nl rest (by simp [M.WF]) hl hcr hnl
    rw [← ht, e1] at hacc hbound
    have hfeed : feed conn ⟨toI st, [], sk⟩ (B ++ tok) = (⟨toI r.2.1, r.1.data.reverse, sk'⟩, X) := by
      rw [feed_append, hbl, e1]; rfl
    obtain ⟨hi, hs⟩ := interp_of_feed hfeed
    have hdata : r.1.data = [] := List.reverse_eq_nil_iff.1 hacc
    refine ⟨?_, ?_, hbound, by rw [e4, hdata]; rfl, hle⟩
    · show interp .gosse conn (toI st) (splitLines (data.take adv) [] sk).1 = _
      rw [htake]; exact hi.trans (by rw [e2]; rfl)
    · show (splitLines (data.take adv) [] sk).2 = []
      rw [htake, hs, hdata]; rfl
  · cases he

end GoSSE.Proofs
