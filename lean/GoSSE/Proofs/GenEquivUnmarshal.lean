import GoSSE.Proofs.GenEquivWrite
import GoSSE.Proofs.ClientRead
import GoSSE.Gen.Unmarshal
/-!
# `Message.UnmarshalText` as translated computes the model's

`GoSSE/Gen/Unmarshal.lean` holds `Message.reset` and `Message.UnmarshalText` as translated from /repo's message.go: the
`for f := (parser.Field{}); s.Next(&f);` loop with its `switch` (a `break` that leaves the switch, a labelled
`break loop`), the retry checks (`strings.IndexFunc` for a non-digit, `strconv.ParseInt`, the `int64` multiplication
by `time.Millisecond` with wrap-around) and the final emptiness test. It returns the model's receiver and the model's
error class for **every** text.
-/
namespace GoSSE.GenEquiv
open GoSSE GoSSE.GoRT GoSSE.Model GoSSE.Proofs

/-- the error value the translated code returns for the model's error class (the translated text does not keep which
`strconv` error it wrapped) -/
def uErrStr : UErr → Option String
  | .nil => none
  | .retryNonDigit => some "UnmarshalError: contains character %q, which is not an ASCII digit"
  | .retrySyntax => some "UnmarshalError: invalid retry value: %w"
  | .retryRange => some "UnmarshalError: invalid retry value: %w"
  | .unexpectedEOF => some "UnmarshalError: ErrUnexpectedEOF"

theorem reset_eq (fuel : Nat) (e : Gen.Message) : Gen.Message_reset fuel e = .ok (toGenMsg {}) := rfl

/-! ## the re-modelled library calls -/

theorem outside_iff (b : Byte) : (decide (b.toNat < 48) || decide (b.toNat > 57)) = !isDigit b := by
  unfold isDigit
  have h1 : decide (48 ≤ b) = decide (48 ≤ b.toNat) := by
    apply decide_eq_decide.mpr; exact UInt8.le_iff_toNat_le
  have h2 : decide (b ≤ 57) = decide (b.toNat ≤ 57) := by
    apply decide_eq_decide.mpr; exact UInt8.le_iff_toNat_le
  rw [h1, h2]
  by_cases a : b.toNat < 48 <;> by_cases c : b.toNat > 57 <;> simp [a, c] <;> omega

theorem indexOutside_spec (v : Bytes) :
    (stringsIndexOutside v 48 57 != (-1 : Int)) = !v.all isDigit ∧
      (0 ≤ stringsIndexOutside v 48 57 ∨ stringsIndexOutside v 48 57 = -1) ∧ stringsIndexOutside v 48 57 ≤ v.length := by
  unfold stringsIndexOutside
  have hp : (fun (b : Byte) => decide (b.toNat < 48) || decide (b.toNat > 57)) = fun b => !isDigit b := by
    funext b; exact outside_iff b
  simp only [hp]
  by_cases h : v.findIdx (fun b => !isDigit b) < v.length
  · have hex : ∃ x ∈ v, (!isDigit x) = true := List.findIdx_lt_length.mp h
    have hall : v.all isDigit = false := by
      rw [Bool.eq_false_iff]; intro ha
      obtain ⟨x, hx, hnx⟩ := hex
      have := List.all_eq_true.mp ha x hx
      simp [this] at hnx
    simp only [h, if_true, hall, Bool.not_false]
    refine ⟨?_, Or.inl (by omega), by omega⟩
    simp
  · have hall : v.all isDigit = true := by
      rw [List.all_eq_true]; intro x hx
      cases hd : isDigit x with
      | true => rfl
      | false =>
        have : ∃ y ∈ v, (!isDigit y) = true := ⟨x, hx, by simp [hd]⟩
        exact absurd (List.findIdx_lt_length.mpr this) h
    simp only [h, if_false, hall, Bool.not_true]
    refine ⟨by decide, Or.inr (by simp), by omega⟩

theorem parseIntDigits_digits (v : Bytes) (n : Nat) (h : v.all isDigit = true) :
    parseIntDigits v n = some (v.foldl (fun n b => n * 10 + (b.toNat - 48)) n) := by
  induction v generalizing n with
  | nil => rfl
  | cons c t ih =>
    simp only [List.all_cons, Bool.and_eq_true] at h
    have hc : (decide (48 ≤ c) && decide (c ≤ 57)) = true := by simpa [isDigit] using h.1
    unfold parseIntDigits
    simp only [hc, Bool.not_true, Bool.false_eq_true, if_false, List.foldl_cons]
    exact ih _ h.2

theorem parseInt_model_digits (c : Byte) (t : Bytes) (h : (c :: t).all isDigit = true) :
    parseInt (c :: t) = if digitsVal (c :: t) ≤ maxInt64 then some ((digitsVal (c :: t) : Nat) : Int) else none := by
  have hcd : isDigit c = true := by simp only [List.all_cons, Bool.and_eq_true] at h; exact h.1
  have hc1 : c ≠ 43 := by intro e; subst e; simp [isDigit] at hcd
  have hc2 : c ≠ 45 := by intro e; subst e; simp [isDigit] at hcd
  unfold parseInt
  split
  · rename_i t' heq; cases heq; exact absurd rfl hc1
  · rename_i t' heq; cases heq; exact absurd rfl hc2
  · simp [h]

theorem strconvParseInt_digits (c : Byte) (t : Bytes) (h : (c :: t).all isDigit = true) :
    strconvParseInt (c :: t) = if digitsVal (c :: t) ≤ 9223372036854775807 then (((digitsVal (c :: t) : Nat) : Int), none)
      else (9223372036854775807, some "strconv.ErrRange") := by
  have hcd : isDigit c = true := by simp only [List.all_cons, Bool.and_eq_true] at h; exact h.1
  have hc1 : c ≠ 43 := by intro e; subst e; simp [isDigit] at hcd
  have hc2 : c ≠ 45 := by intro e; subst e; simp [isDigit] at hcd
  unfold strconvParseInt
  have hh : ((c :: t : Bytes).head? == some 45) = false := by simp [hc2]
  have hh3 : ((c :: t : Bytes).head? == some 43) = false := by simp [hc1]
  simp only [hh, hh3, Bool.or_false, Bool.false_eq_true, if_false, List.isEmpty_cons, parseIntDigits_digits (c :: t) 0 h]
  rfl

/-- on digit strings `strconv.ParseInt` as re-modelled is the model's `parseInt` -/
theorem parseInt_digits (v : Bytes) (h : v.all isDigit = true) :
    (match parseInt v with
     | some n => strconvParseInt v = (n, none)
     | none => (strconvParseInt v).2 ≠ none) := by
  cases v with
  | nil => simp [parseInt, strconvParseInt]
  | cons c t =>
    rw [parseInt_model_digits c t h, strconvParseInt_digits c t h]
    by_cases hle : digitsVal (c :: t) ≤ maxInt64
    · have : digitsVal (c :: t) ≤ 9223372036854775807 := hle
      simp [hle, this]
    · have : ¬ digitsVal (c :: t) ≤ 9223372036854775807 := hle
      simp [hle, this]

theorem indexByte_contains (v : Bytes) (c : Byte) : (stringsIndexByte v c != (-1 : Int)) = v.contains c := by
  unfold stringsIndexByte
  by_cases h : v.findIdx (· == c) < v.length
  · have hex : ∃ x ∈ v, (x == c) = true := List.findIdx_lt_length.mp h
    have hc : v.contains c = true := by
      obtain ⟨x, hx, hxc⟩ := hex
      have : x = c := by simpa using hxc
      subst this
      simpa using hx
    simp only [h, if_true, hc]
    simp
  · have hc : v.contains c = false := by
      rw [Bool.eq_false_iff]; intro hcon
      have hm : c ∈ v := by simpa using hcon
      exact h (List.findIdx_lt_length.mpr ⟨c, hm, by simp⟩)
    simp only [h, if_false, hc]
    decide

/-- the translated retry checks (`strings.IndexFunc` for a non-digit, then `strconv.ParseInt`) decide as the model's
`all isDigit` and `parseInt` -/
theorem retry_cases (v : Bytes) :
    (v.all isDigit = false ∧ (stringsIndexOutside v 48 57 != -1) = true) ∨
    (v.all isDigit = true ∧ (stringsIndexOutside v 48 57 != -1) = false ∧
      ((parseInt v = none ∧ ((strconvParseInt v).2 != none) = true) ∨
        ∃ n, parseInt v = some n ∧ strconvParseInt v = (n, none))) := by
  have h1 := (indexOutside_spec v).1
  cases hd : v.all isDigit with
  | false => rw [hd] at h1; exact .inl ⟨rfl, h1⟩
  | true =>
    rw [hd] at h1
    have hpi := parseInt_digits v hd
    refine .inr ⟨rfl, h1, ?_⟩
    cases hp : parseInt v with
    | none => rw [hp] at hpi; exact .inl ⟨rfl, bne_iff_ne.mpr hpi⟩
    | some n => rw [hp] at hpi; exact .inr ⟨n, rfl, hpi⟩

/-! The texts of the `UnmarshalError` values, put together once (evaluating a string concatenation is slow). -/

theorem errStruct_nonDigit :
    errStruct "UnmarshalError" (some "contains character %q, which is not an ASCII digit") = uErrStr .retryNonDigit := by
  simp only [errStruct, uErrStr, Option.getD_some, String.reduceAppend]
theorem errStruct_retry : errStruct "UnmarshalError" (some "invalid retry value: %w") = uErrStr .retrySyntax := by
  simp only [errStruct, uErrStr, Option.getD_some, String.reduceAppend]
theorem errStruct_eof : errStruct "UnmarshalError" (some "ErrUnexpectedEOF") = uErrStr .unexpectedEOF := by
  simp only [errStruct, uErrStr, Option.getD_some, String.reduceAppend]

/-! ## the loop -/

/-! The `switch` over the wire name of a field is a `match` on the model's field name. -/

theorem nameBytes_beq_data (n : FName) : (nameBytes n == ([100, 97, 116, 97] : Bytes)) = decide (n = .data) := by
  cases n <;> rfl
theorem nameBytes_beq_event (n : FName) : (nameBytes n == ([101, 118, 101, 110, 116] : Bytes)) = decide (n = .event) := by
  cases n <;> rfl
theorem nameBytes_beq_retry (n : FName) : (nameBytes n == ([114, 101, 116, 114, 121] : Bytes)) = decide (n = .retry) := by
  cases n <;> rfl
theorem nameBytes_beq_id (n : FName) : (nameBytes n == ([105, 100] : Bytes)) = decide (n = .id) := by
  cases n <;> rfl
theorem nameBytes_beq_comment (n : FName) : (nameBytes n == ([58] : Bytes)) = decide (n = .comment) := by
  cases n <;> rfl

/-- the `switch` of `UnmarshalText`'s loop on one field: the receiver afterwards (`next`), an unknown name that ends
the loop (`brk`), or the error returned (`ret`) -/
def uField (m : Message) (f : Field) : Step Message UErr :=
  match f.name with
  | .retry =>
    if !f.value.all isDigit then .ret .retryNonDigit
    else match parseInt f.value with
      | none => .ret (if f.value.isEmpty then .retrySyntax else .retryRange)
      | some milli => .next { m with retry := wrap64 (milli * 1000000) }
  | .data => .next { m with chunks := m.chunks ++ [⟨f.value, false⟩] }
  | .comment => .next { m with chunks := m.chunks ++ [⟨f.value, true⟩] }
  | .event => .next { m with typ := { value := f.value, set := true } }
  | .id => if f.value.contains 0 then .next m else .next { m with id := { value := f.value, set := true } }
  | .none => .brk m

theorem unmarshalLoop_succ (n : Nat) (fp : FP) (m : Message) :
    unmarshalLoop (n + 1) fp m =
      match FP.next (fp.data.length + 1) fp with
      | (none, fp') => (m, fp', .nil)
      | (some f, fp') =>
        match uField m f with
        | .next m' => unmarshalLoop n fp' m'
        | .brk _ => (m, fp', .nil)
        | .ret e => (m, fp', e) := by
  rw [unmarshalLoop]
  cases FP.next (fp.data.length + 1) fp with
  | mk o fp' =>
    cases o with
    | none => rfl
    | some f =>
      obtain ⟨name, v⟩ := f
      cases name with
      | retry =>
        simp only [uField]
        cases (!v.all isDigit) with
        | true => rfl
        | false => cases parseInt v <;> rfl
      | id => simp only [uField]; cases v.contains 0 <;> rfl
      | data | comment | event | none => rfl

/-- the errors `uField` returns are errors -/
theorem uField_ret (m : Message) (f : Field) (e : UErr) (h : uField m f = .ret e) : e ≠ .nil := by
  obtain ⟨name, v⟩ := f
  cases name with
  | retry =>
    simp only [uField] at h
    split at h
    · cases h; exact UErr.noConfusion
    · split at h
      · cases h; split <;> exact UErr.noConfusion
      · cases h
  | id => simp only [uField] at h; split at h <;> cases h
  | data | comment | event | none => cases h

/-- how the translated loop ends, for an outcome of the model's `unmarshalLoop` -/
def ULoopAgrees (res : Message × FP × UErr)
    (lhs : GoM ((Gen.Message × Gen.FieldParser × Gen.Field) ⊕ (Option String × Gen.Message))) : Prop :=
  if res.2.2 = .nil then ∃ s' f', lhs = .ok (.inl (toGenMsg res.1, s', f')) ∧ absFP s' = res.2.1
  else lhs = .ok (.inr (uErrStr res.2.2, toGenMsg res.1))

theorem wrapInt64_eq (x : Int) : wrapInt64 x = wrap64 x := rfl

theorem toGenMsg_snoc (m : Message) (c : Chunk) :
    toGenMsg { m with chunks := m.chunks ++ [c] } = { toGenMsg m with chunks := (toGenMsg m).chunks ++ [gC c] } := by
  unfold toGenMsg
  rw [List.map_append]
  rfl

theorem uloop1_none (fuel : Nat) (m : Message) (s s' : Gen.FieldParser) (f : Gen.Field)
    (hnext : Gen.FieldParser_Next fuel s f = .ok (false, s', f)) :
    Gen.Message_UnmarshalText_loop1 fuel (toGenMsg m, s, f) = .ok (Step.brk (toGenMsg m, s', f)) := by
  show (Gen.FieldParser_Next fuel s f >>= _) = _
  rw [hnext]
  rfl

/-- a non-digit in a retry value is at an index the error text may be cut at -/
theorem sliceFrom_indexOutside (v : Bytes) (h : v.all isDigit = false) :
    ∃ t, sliceFrom v (stringsIndexOutside v 48 57) = .ok t := by
  obtain ⟨h1, h2, h3⟩ := indexOutside_spec v
  rw [h] at h1
  have h0 : 0 ≤ stringsIndexOutside v 48 57 := h2.resolve_right (bne_iff_ne.mp h1)
  exact ⟨_, if_pos ⟨h0, h3⟩⟩

/-- an iteration of the translated loop that got a field: its `switch` is `uField` -/
theorem uloop1_some (fuel : Nat) (m : Message) (s s' : Gen.FieldParser) (f : Gen.Field) (fld : Field)
    (hnext : Gen.FieldParser_Next fuel s f = .ok (true, s', fieldOf fld)) :
    Gen.Message_UnmarshalText_loop1 fuel (toGenMsg m, s, f) =
      .ok (match uField m fld with
        | .next m' => Step.next (toGenMsg m', s', fieldOf fld)
        | .brk _ => Step.brk (toGenMsg m, s', fieldOf fld)
        | .ret e => Step.ret (uErrStr e, toGenMsg m)) := by
  obtain ⟨name, v⟩ := fld
  show (Gen.FieldParser_Next fuel s f >>= _) = _
  rw [hnext, ok_bind]
  extract_lets +onlyGivenNames _ g tag
  have hg : g = ⟨nameBytes name, v⟩ := rfl
  have ht : tag = nameBytes name := rfl
  clear_value tag g
  subst ht hg
  rw [nameBytes_beq_data, nameBytes_beq_event, nameBytes_beq_id, nameBytes_beq_retry, nameBytes_beq_comment,
    errStruct_nonDigit, errStruct_retry]
  cases name with
  | event | none => rfl
  | data | comment =>
    show _ = Except.ok (Step.next (toGenMsg { m with chunks := m.chunks ++ [⟨v, _⟩] }, s', _))
    rw [toGenMsg_snoc]
    rfl
  | id =>
    show (if (stringsIndexByte v 0 != -1) = true then _ else _) = _
    rw [indexByte_contains]
    unfold uField
    cases v.contains 0 <;> rfl
  | retry =>
    show (if (stringsIndexOutside v 48 57 != -1) = true then sliceFrom v (stringsIndexOutside v 48 57) >>= _
      else if ((strconvParseInt v).2 != none) = true then _ else _) = _
    unfold uField
    rcases retry_cases v with ⟨hd, hi⟩ | ⟨hd, hi, ⟨hp, he⟩ | ⟨n, hp, he⟩⟩
    · obtain ⟨t, ht⟩ := sliceFrom_indexOutside v hd
      rw [hi, ht, hd]
      rfl
    · rw [hi, he, hd, hp]
      cases v <;> rfl
    · rw [hi, he, hd, hp]
      rfl
theorem uloop_eq (fuel : Nat) :
    ∀ (n : Nat) (s : Gen.FieldParser) (m : Message) (f : Gen.Field) (F : Nat),
      s.data.length < n → n < F → s.data.length + 1 < fuel →
      ULoopAgrees (unmarshalLoop n (absFP s) m)
        (loopM (Gen.Message_UnmarshalText_loop1 fuel) F (toGenMsg m, s, f)) := by
  intro n
  induction n with
  | zero => intro s m f F h; omega
  | succ n ih =>
    intro s m f F hn hF hfuel
    obtain ⟨k, rfl⟩ : ∃ k, F = k + 1 := ⟨F - 1, by omega⟩
    obtain ⟨s', out', ok, hnext, habs, hres⟩ := Next_eq fuel s f hfuel
    have hdata : (absFP s).data = s.data := rfl
    rw [unmarshalLoop_succ, hdata]
    have hdec := ClientRead.fpNext_some (s.data.length + 1) (absFP s)
    cases hfn : FP.next (s.data.length + 1) (absFP s) with
    | mk ofld fp' =>
      rw [hfn] at habs hres hdec
      obtain rfl : fp' = absFP s' := habs.symm
      cases ofld with
      | none =>
        obtain ⟨hok, hout⟩ := hres
        subst hok
        rw [hout] at hnext
        rw [loopM_brk (uloop1_none fuel m s s' f hnext) k]
        exact ⟨s', f, rfl, rfl⟩
      | some fld =>
        obtain ⟨hok, hout⟩ := hres
        subst hok
        rw [hout] at hnext
        have hstep := uloop1_some fuel m s s' f fld hnext
        have hlen : s'.data.length + 1 ≤ s.data.length := hdec rfl
        cases hu : uField m fld with
        | next m' =>
          simp only [hu] at hstep ⊢
          rw [loopM_next hstep k]
          exact ih s' m' (fieldOf fld) k (by omega) (by omega) (by omega)
        | brk m' =>
          simp only [hu] at hstep ⊢
          rw [loopM_brk hstep k]
          exact ⟨s', fieldOf fld, rfl, rfl⟩
        | ret e =>
          simp only [hu] at hstep ⊢
          rw [loopM_ret hstep k]
          exact (if_neg (uField_ret m fld e hu)).mpr rfl

theorem Err_eq (fuel : Nat) (s : Gen.FieldParser) : Gen.FieldParser_Err fuel s = .ok (s.err, s) := rfl

/-! Go's short-circuit `a && f()` / `a || f()` over calls that return without a fault -/

theorem ite_ok_and (c x : Bool) [Decidable (c = true)] :
    (if c = true then (Except.ok x : GoM Bool) else Except.ok false) = Except.ok (c && x) := by
  cases c
  · rw [if_neg Bool.false_ne_true]; rfl
  · rw [if_pos rfl]; rfl

theorem ite_ok_or (c x : Bool) [Decidable (c = true)] :
    (if c = true then (Except.ok true : GoM Bool) else Except.ok x) = Except.ok (c || x) := by
  cases c
  · rw [if_neg Bool.false_ne_true]; rfl
  · rw [if_pos rfl]; rfl

theorem bne_none_eq_isSome (o : Option String) : (o != none) = o.isSome := by cases o <;> rfl

theorem len_map_beq_zero {α β : Type} (l : List α) (g : α → β) : (len (l.map g) == (0 : Int)) = l.isEmpty := by
  cases l with
  | nil => rfl
  | cons a t =>
    have : ¬ ((((a :: t).map g).length : Nat) : Int) = 0 := by simp only [List.map_cons, List.length_cons]; omega
    simpa [len] using this

theorem setRemoveBOM_len (fp : FP) (b : Bool) : (fp.setRemoveBOM b).data.length ≤ fp.data.length := by
  unfold FP.setRemoveBOM FP.doRemoveBOM
  split <;> simp

/-- `Message.UnmarshalText` as translated: for every text, the model's receiver and the model's error class; the
receiver's previous content plays no part (`reset`); no panic, the loop ends -/
theorem Message_UnmarshalText_eq (fuel : Nat) (e : Gen.Message) (p : Bytes) (hf : p.length + 2 < fuel) :
    Gen.Message_UnmarshalText fuel e p =
      .ok (uErrStr (Message.unmarshalText p).2, toGenMsg (Message.unmarshalText p).1) := by
  unfold Gen.Message_UnmarshalText Message.unmarshalText
  rw [errStruct_eof]
  simp only [bind, Except.bind, reset_eq, Gen.NewFieldParser, Gen.FieldParser_KeepComments, pure, Except.pure]
  obtain ⟨s2, h2, habs2, herr2⟩ := RemoveBOM_eq fuel
    { err := none, data := p, started := false, keepComments := true, removeBOM := false } true
  rw [h2]
  have hfp : absFP { err := none, data := p, started := false, keepComments := true, removeBOM := false } =
      ({ data := p, keepComments := true } : FP) := rfl
  rw [hfp] at habs2
  have hlen2 : s2.data.length ≤ p.length := by
    have := setRemoveBOM_len ({ data := p, keepComments := true } : FP) true
    rw [← habs2] at this
    exact this
  have hloop := uloop_eq fuel (p.length + 1) s2 {} ({ Name := [], Value := [] } : Gen.Field) fuel (by omega) (by omega) (by omega)
  rw [habs2] at hloop
  generalize hr : unmarshalLoop (p.length + 1) (({ data := p, keepComments := true } : FP).setRemoveBOM true) {} = r at hloop
  obtain ⟨m', fp', ue⟩ := r
  unfold ULoopAgrees at hloop
  by_cases hue : ue = .nil
  · subst hue
    simp only [if_true] at hloop
    obtain ⟨s', f', hl, habs'⟩ := hloop
    simp only []
    rw [hl]
    have herr : fp'.err = s'.err.isSome := by rw [← habs']; rfl
    simp only [bne_self_eq_false, Bool.false_eq_true, if_false, herr]
    -- the emptiness test: short-circuit `&&` / `||` over pure answers
    dsimp only [toGenMsg_chunks, toGenMsg_typ, toGenMsg_id]
    simp only [len_map_beq_zero, IsSet_eq, Err_eq, ite_ok_and, ite_ok_or, bne_none_eq_isSome]
    show (if (m'.chunks.isEmpty && !m'.typ.set && m'.retry == 0 && !m'.id.set || s'.err.isSome) = true then _ else _) = _
    cases (m'.chunks.isEmpty && !m'.typ.set && m'.retry == 0 && !m'.id.set || s'.err.isSome) <;> rfl
  · simp only [hue, if_false] at hloop
    simp only []
    rw [hloop]
    have : (ue != UErr.nil) = true := by simp [hue]
    simp [this]

end GoSSE.GenEquiv
