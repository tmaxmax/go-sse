import GoSSE.Model.Parser
/-!
Lines of a byte string: every string is a line without terminator, or a line, its terminator and
a rest. What `NewlineIndex`, `NextChunk` and the specification's `splitLines` do on the two forms;
hence go-sse's `NextChunk` iteration coincides with the specification's byte-at-a-time line splitter.
-/
namespace GoSSE.Proofs
open GoSSE GoSSE.Spec GoSSE.Model

def NlFree (s : Bytes) : Prop := ∀ b ∈ s, isNl b = false

theorem isNl_false_iff (b : Byte) : isNl b = false ↔ b ≠ 10 ∧ b ≠ 13 := by
  simp [isNl]

theorem isNl_true_iff (b : Byte) : isNl b = true ↔ b = 10 ∨ b = 13 := by
  simp [isNl]

theorem nlFree_nil : NlFree [] := by intro b h; cases h

theorem nlFree_cons {b : Byte} {s : Bytes} : NlFree (b :: s) ↔ isNl b = false ∧ NlFree s := by
  simp [NlFree]

theorem nlFree_append {s t : Bytes} : NlFree (s ++ t) ↔ NlFree s ∧ NlFree t := by
  simp only [NlFree, List.mem_append]
  constructor
  · intro h; exact ⟨fun b hb => h b (Or.inl hb), fun b hb => h b (Or.inr hb)⟩
  · intro h b hb; cases hb with
    | inl hb => exact h.1 b hb
    | inr hb => exact h.2 b hb

theorem nlFree_iff (v : Bytes) : NlFree v ↔ ∀ b ∈ v, b ≠ 10 ∧ b ≠ 13 :=
  forall₂_congr fun b _ => isNl_false_iff b

/-- a line terminator as `NewlineIndex` delimits it, followed by `t` -/
def IsTerm (term t : Bytes) : Prop := term = [10] ∨ term = [13, 10] ∨ (term = [13] ∧ t.head? ≠ some 10)

theorem NlFree.cons {b : Byte} {l : Bytes} (hb : isNl b = false) (hl : NlFree l) : NlFree (b :: l) :=
  nlFree_cons.2 ⟨hb, hl⟩

theorem NlFree.tail {b : Byte} {l : Bytes} (h : NlFree (b :: l)) : NlFree l := (nlFree_cons.1 h).2

theorem IsTerm.pos {term t} (h : IsTerm term t) : 0 < term.length := by
  rcases h with h | h | ⟨h, _⟩ <;> simp [h]

theorem IsTerm.ne_nil {term t} (h : IsTerm term t) : term ≠ [] := List.ne_nil_of_length_pos h.pos

theorem exists_term_of_isNl (b : Byte) (t : Bytes) (hb : isNl b = true) :
    ∃ term t', b :: t = term ++ t' ∧ IsTerm term t' := by
  rcases (isNl_true_iff b).1 hb with rfl | rfl
  · exact ⟨[10], t, rfl, .inl rfl⟩
  · cases t with
    | nil => exact ⟨[13], [], rfl, .inr (.inr ⟨rfl, nofun⟩)⟩
    | cons c t' =>
      by_cases hc : c = 10
      · subst hc; exact ⟨[13, 10], t', rfl, .inr (.inl rfl)⟩
      · exact ⟨[13], c :: t', rfl, .inr (.inr ⟨rfl, by simpa using hc⟩)⟩

theorem exists_line_split (s : Bytes) : NlFree s ∨ ∃ l term t, s = l ++ term ++ t ∧ NlFree l ∧ IsTerm term t := by
  induction s with
  | nil => exact .inl nofun
  | cons b s ih =>
    cases hb : isNl b with
    | true =>
      obtain ⟨term, t, hs, ht⟩ := exists_term_of_isNl b s hb
      exact .inr ⟨[], term, t, hs, nofun, ht⟩
    | false =>
      rcases ih with h | ⟨l, term, t, hs, hl, ht⟩
      · exact .inl (h.cons hb)
      · exact .inr ⟨b :: l, term, t, by rw [hs]; rfl, hl.cons hb, ht⟩

theorem line_isEmpty (l : Bytes) {term t : Bytes} (ht : IsTerm term t) : (l ++ term ++ t).isEmpty = false :=
  Bool.eq_false_iff.2 fun h =>
    ht.ne_nil (List.append_eq_nil_iff.1 (List.append_eq_nil_iff.1 (List.isEmpty_iff.1 h)).1).2

theorem line_take (l term t : Bytes) : (l ++ term ++ t).take l.length = l := by
  rw [List.append_assoc]; exact List.take_left' rfl

theorem line_drop (l term t : Bytes) : (l ++ term ++ t).drop (l.length + term.length) = t :=
  List.drop_left' List.length_append

theorem newlineIndex_cons_of_not_nl (b : Byte) (t : Bytes) (hb : isNl b = false) :
    newlineIndex (b :: t) = ((newlineIndex t).1 + 1, (newlineIndex t).2) := by
  simp only [newlineIndex, hb]; rfl

theorem newlineIndex_noNl (s : Bytes) (h : NlFree s) : newlineIndex s = (s.length, 0) := by
  induction s with
  | nil => rfl
  | cons b t ih => rw [newlineIndex_cons_of_not_nl b t (h b (by simp)), ih h.tail]; rfl

theorem newlineIndex_term (l term t : Bytes) (hl : NlFree l) (ht : IsTerm term t) :
    newlineIndex (l ++ term ++ t) = (l.length, term.length) := by
  induction l with
  | nil =>
    rcases ht with h | h | ⟨h, h'⟩ <;> subst h
    · simp [newlineIndex, isNl]
    · simp [newlineIndex, isNl]
    · simp [newlineIndex, isNl, h']
  | cons b l ih =>
    rw [List.cons_append, List.cons_append, newlineIndex_cons_of_not_nl b _ (hl b (by simp)), ih hl.tail]; rfl

theorem newlineIndex_le (s : Bytes) : (newlineIndex s).1 + (newlineIndex s).2 ≤ s.length := by
  rcases exists_line_split s with h | ⟨l, term, t, rfl, hl, ht⟩
  · rw [newlineIndex_noNl s h]; exact Nat.le_refl _
  · rw [newlineIndex_term l term t hl ht]; simp only [List.length_append]; omega

theorem newlineIndex_snd_eq_zero {s : Bytes} : (newlineIndex s).2 = 0 ↔ NlFree s := by
  refine ⟨fun h => ?_, fun h => by rw [newlineIndex_noNl s h]⟩
  rcases exists_line_split s with hs | ⟨l, term, t, rfl, hl, ht⟩
  · exact hs
  · rw [newlineIndex_term l term t hl ht] at h
    exact absurd h (Nat.ne_of_gt ht.pos)

theorem nextChunk_noNl (s : Bytes) (h : NlFree s) : nextChunk s = (s, [], false) := by
  simp [nextChunk, newlineIndex_noNl s h]

theorem nextChunk_term (l term t : Bytes) (hl : NlFree l) (ht : IsTerm term t) :
    nextChunk (l ++ term ++ t) = (l, t, true) := by
  have hp := ht.pos
  simp only [nextChunk, newlineIndex_term l term t hl ht, line_take, line_drop]
  simp only [Prod.mk.injEq, true_and, bne_iff_ne, ne_eq]; omega

theorem nextChunk_fst_nlFree (s : Bytes) : NlFree (nextChunk s).1 := by
  rcases exists_line_split s with hs | ⟨l, term, t, rfl, hl, ht⟩
  · rw [nextChunk_noNl s hs]; exact hs
  · rw [nextChunk_term l term t hl ht]; exact hl

theorem splitLines_skip_nonLF (b : Byte) (t acc : Bytes) (h : b ≠ 10) :
    splitLines (b :: t) acc true = splitLines (b :: t) acc false := by
  simp [splitLines, h]

theorem splitLines_true_eq (s : Bytes) :
    splitLines s [] true = splitLines (if s.head? = some 10 then s.tail else s) [] false := by
  cases s with
  | nil => simp [splitLines]
  | cons b t =>
    by_cases h : b = 10
    · subst h; simp [splitLines]
    · rw [splitLines_skip_nonLF _ _ _ h]; simp [h]

theorem splitLines_cons_of_not_nl (b : Byte) (t acc : Bytes) (sk : Bool) (hb : isNl b = false) :
    splitLines (b :: t) acc sk = splitLines t (b :: acc) false := by
  obtain ⟨h10, h13⟩ := (isNl_false_iff b).1 hb
  simp [splitLines, h10, h13]

theorem splitLines_noNl (s acc : Bytes) (h : NlFree s) : splitLines s acc false = ([], acc.reverse ++ s) := by
  induction s generalizing acc with
  | nil => simp [splitLines]
  | cons b t ih => rw [splitLines_cons_of_not_nl b t acc false (h b (by simp)), ih _ h.tail]; simp

theorem splitLines_terminated (l term t acc : Bytes) (hl : NlFree l) (ht : IsTerm term t) :
    splitLines (l ++ term ++ t) acc false =
      ((acc.reverse ++ l) :: (splitLines t [] false).1, (splitLines t [] false).2) := by
  induction l generalizing acc with
  | nil =>
    rcases ht with h | h | ⟨h, h'⟩ <;> subst h
    · simp [splitLines]
    · simp [splitLines]
    · simp [splitLines, splitLines_true_eq, h']
  | cons b l ih =>
    rw [List.cons_append, List.cons_append, splitLines_cons_of_not_nl b _ acc false (hl b (by simp)), ih _ hl.tail]
    simp

theorem splitLines_acc (s acc : Bytes) :
    splitLines s acc false =
      let r := newlineIndex s
      if r.2 = 0 then ([], acc.reverse ++ s)
      else
        let q := splitLines (s.drop (r.1 + r.2)) [] false
        ((acc.reverse ++ s.take r.1) :: q.1, q.2) := by
  rcases exists_line_split s with h | ⟨l, term, t, rfl, hl, ht⟩
  · simp only [newlineIndex_noNl s h, splitLines_noNl s acc h, if_true]
  · have := ht.pos
    simp only [newlineIndex_term l term t hl ht, splitLines_terminated l term t acc hl ht, line_take, line_drop]
    rw [if_neg (by omega)]

/-- iterated `NextChunk`, as `FieldParser.Next` and `appendText` do it: the complete
lines and the unterminated rest -/
def chunks : Nat → Bytes → List Bytes × Bytes
  | 0, s => ([], s)
  | f + 1, s =>
    if s.isEmpty then ([], []) else
    let r := nextChunk s
    if !r.2.2 then ([], s) else
      let q := chunks f r.2.1
      (r.1 :: q.1, q.2)

theorem chunks_eq_splitLines (n : Nat) (s : Bytes) (h : s.length < n) :
    chunks n s = splitLines s [] false := by
  induction n generalizing s with
  | zero => omega
  | succ n ih =>
    unfold chunks
    rcases exists_line_split s with hno | ⟨l, term, t, rfl, hl, ht⟩
    · rw [nextChunk_noNl s hno, splitLines_noNl s [] hno]
      cases s <;> rfl
    · have := ht.pos
      simp only [List.length_append] at h
      simp only [line_isEmpty l ht, nextChunk_term l term t hl ht, splitLines_terminated l term t [] hl ht, ih t (by omega),
        Bool.not_true, Bool.false_eq_true, if_false, List.reverse_nil, List.nil_append]

end GoSSE.Proofs
