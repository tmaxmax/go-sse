import GoSSE.Model.Parser
/-!
One line: `scanSegment` followed by one iteration of the `switch` in `read()` is the specification's
`procLine` (`lineStep_conforms`), for every byte string and both entry points.
-/
namespace GoSSE.Proofs
open GoSSE GoSSE.Spec GoSSE.Model

/-- the interpreter state of `read()` seen as the specification's state -/
def toI (st : RState) : IState := { lastID := st.lastID, typ := st.typ, data := st.sb, dirty := st.dirty }

/-- `read()` resets `typ` and `sb` whenever it clears `dirty` -/
def CleanInv (st : RState) : Prop := st.dirty = false → st.typ = [] ∧ st.sb = []

/-- what the implementation does with one complete line -/
def lineStep (conn : Bool) (st : RState) (l : Bytes) : RState × List Out :=
  match scanSegment false l with
  | some f => readField conn st f
  | none => (st, [])

/-- what the implementation does once the line is cut into name and value -/
def fieldStep (conn : Bool) (st : RState) (name v : Bytes) : RState × List Out :=
  match getFieldName name with
  | some n => readField conn st ⟨n, v⟩
  | none => (st, [])

theorem span_loop_eq {α} (p : α → Bool) (l acc : List α) :
    List.span.loop p l acc = (acc.reverse ++ l.takeWhile p, l.dropWhile p) := by
  induction l generalizing acc with
  | nil => simp [List.span.loop]
  | cons a t ih =>
    cases h : p a <;> simp [List.span.loop, h, ih]

theorem span_eq {α} (p : α → Bool) (l : List α) :
    l.span p = (l.takeWhile p, l.dropWhile p) := by
  simp [List.span, span_loop_eq]

/-- `bytes.IndexByte(l, ':')` and the specification's `span` up to the first colon -/
theorem findIdx_span_append (name r : Bytes) (h : 58 ∉ name) :
    (name ++ r).findIdx (· == 58) = name.length + r.findIdx (· == 58) ∧
    (name ++ r).span (· != 58) = (name ++ (r.span (· != 58)).1, (r.span (· != 58)).2) := by
  have hne : ∀ b ∈ name, b ≠ 58 := fun b hb e => h (e ▸ hb)
  constructor
  · rw [List.findIdx_append, List.findIdx_eq_length.2 fun b hb => beq_eq_false_iff_ne.2 (hne b hb),
      if_neg (Nat.lt_irrefl _), Nat.add_comm]
  · have hall : ∀ b ∈ name, (b != 58) = true := fun b hb => bne_iff_ne.2 (hne b hb)
    rw [span_eq, span_eq, List.takeWhile_append_of_pos hall, List.dropWhile_append_of_pos hall]

theorem indexByte_colon (name rest : Bytes) (hc : 58 ∉ name) : indexByte (name ++ 58 :: rest) 58 = some name.length := by
  have h := (findIdx_span_append name (58 :: rest) hc).1
  rw [show (58 :: rest).findIdx (· == 58) = 0 from rfl] at h
  rw [indexByte, h, if_pos (by simp)]; rfl

theorem colon_split (l : Bytes) :
    (58 ∉ l ∧ indexByte l 58 = none ∧ l.span (· != 58) = (l, [])) ∨
    ∃ name v, l = name ++ 58 :: v ∧ 58 ∉ name ∧ indexByte l 58 = some name.length ∧
      l.span (· != 58) = (name, 58 :: v) := by
  by_cases h : 58 ∈ l
  · obtain ⟨name, v, rfl, hn⟩ := List.eq_append_cons_of_mem h
    have h2 := (findIdx_span_append name (58 :: v) hn).2
    rw [show (58 :: v).span (· != 58) = ([], 58 :: v) from rfl, List.append_nil] at h2
    exact .inr ⟨name, v, rfl, hn, indexByte_colon name v hn, h2⟩
  · obtain ⟨h1, h2⟩ := findIdx_span_append l [] h
    have e2 : ([] : Bytes).span (· != 58) = ([], []) := rfl
    rw [List.append_nil] at h1; rw [e2, List.append_nil] at h2
    exact .inl ⟨h, by rw [indexByte, h1, if_neg (by simp)], h2⟩

theorem take_drop_colon (name v : Bytes) :
    (name ++ 58 :: v).take name.length = name ∧
    (name ++ 58 :: v).drop (min (name.length + 1) (name ++ 58 :: v).length) = v := by
  constructor
  · simp
  · have : min (name.length + 1) (name ++ 58 :: v).length = name.length + 1 := by
      simp
    rw [this]
    simp

theorem trimFirstSpace_eq : trimFirstSpace = dropOneSpace := by
  funext s
  unfold trimFirstSpace dropOneSpace
  split <;> split <;> simp_all

theorem getFieldName_long (name : Bytes) (h : name.length > 5) : getFieldName name = none := by
  have h1 : name ≠ fData := by rintro rfl; simp [fData] at h
  have h2 : name ≠ fEvent := by rintro rfl; simp [fEvent] at h
  have h3 : name ≠ fRetry := by rintro rfl; simp [fRetry] at h
  have h4 : name ≠ fId := by rintro rfl; simp [fId] at h
  simp [getFieldName, h1, h2, h3, h4]

theorem getFieldName_nil : getFieldName [] = none := by decide

theorem parseInt_digits (v : Bytes) (h : v.all isDigit = true) :
    parseInt v = if v.isEmpty then none else if digitsVal v ≤ maxInt64 then some (digitsVal v : Int) else none := by
  unfold parseInt
  split
  · simp [isDigit] at h
  · simp [isDigit] at h
  · simp [h]

theorem retry_conforms (conn : Bool) (st : RState) (v : Bytes) :
    (match retryVal v with
      | some n => if conn then ({ toI st with dirty := true }, [Out.retry n]) else (toI st, [])
      | none => (toI st, [])) =
    (toI (readField conn st ⟨.retry, v⟩).1, (readField conn st ⟨.retry, v⟩).2) := by
  by_cases hd : v.all isDigit = true
  · simp only [readField, retryVal, parseInt_digits v hd, hd]
    by_cases he : v = []
    · simp [he]
    · by_cases hm : digitsVal v ≤ maxInt64
      · cases conn <;> simp [he, hm, toI]
      · simp [he, hm]
  · simp [readField, retryVal, hd]

theorem procLine_field (conn : Bool) (st : RState) (l name v : Bytes) (hl : l ≠ [])
    (hp : parseLine l = some (name, v)) :
    procLine .gosse conn (toI st) l = (toI (fieldStep conn st name v).1, (fieldStep conn st name v).2) := by
  have hl' : l.isEmpty = false := by cases l <;> simp_all
  simp only [procLine, hl', hp]
  by_cases h1 : name = fData
  · subst h1; rfl
  by_cases h2 : name = fEvent
  · subst h2; rfl
  by_cases h3 : name = fId
  · subst h3
    show (if v.contains 0 then _ else _) = (toI (readField conn st ⟨.id, v⟩).1, (readField conn st ⟨.id, v⟩).2)
    simp only [readField]
    split <;> rfl
  by_cases h4 : name = fRetry
  · subst h4; exact retry_conforms conn st v
  simp [fieldStep, getFieldName, h1, h2, h3, h4]

theorem readField_inv (conn : Bool) (st : RState) (f : Field) (h : CleanInv st) : CleanInv (readField conn st f).1 := by
  have hset : ∀ st' : RState, st'.dirty = true → CleanInv st' := fun st' hd hf => by rw [hd] at hf; cases hf
  have hreset : CleanInv { lastID := st.lastID } := fun _ => ⟨rfl, rfl⟩
  unfold readField
  split
  · exact hset _ rfl
  · exact hset _ rfl
  · split
    · exact h
    · exact hset _ rfl
  · split
    · exact h
    · split
      · split
        · exact hset _ rfl
        · exact h
      · exact h
  · split
    · exact hreset
    · exact h

theorem lineStep_inv (conn : Bool) (st : RState) (l : Bytes) (h : CleanInv st) : CleanInv (lineStep conn st l).1 := by
  unfold lineStep
  split
  · exact readField_inv conn st _ h
  · exact h

theorem scanSegment_nil : scanSegment false [] = some ⟨.none, []⟩ := by decide

theorem lineStep_nil (conn : Bool) (st : RState) :
    lineStep conn st [] =
      if st.dirty then ({ lastID := st.lastID }, [.event (doYield st)]) else (st, []) := by
  simp [lineStep, scanSegment_nil, readField]

theorem mkEvent_toI (st : RState) : mkEvent (toI st) = doYield st := rfl

theorem lineStep_nocolon (conn : Bool) (st : RState) (l : Bytes) (hl : l ≠ [])
    (hc : indexByte l 58 = none) : lineStep conn st l = fieldStep conn st l [] := by
  have hl' : l.isEmpty = false := by cases l <;> simp_all
  unfold lineStep fieldStep scanSegment
  simp only [hc]
  cases getFieldName l <;> simp [hl']

/-- the scan of `name:value` with a colon-free name, with comments kept (`k`) or dropped -/
theorem scanSegment_colon (k : Bool) (name v : Bytes)
    (hc : indexByte (name ++ 58 :: v) 58 = some name.length) :
    scanSegment k (name ++ 58 :: v) =
      match getFieldName name with
      | some n => some ⟨n, dropOneSpace v⟩
      | none => if name.isEmpty && k then some ⟨.comment, dropOneSpace v⟩ else none := by
  unfold scanSegment
  simp only [hc, (take_drop_colon name v).1, (take_drop_colon name v).2, trimFirstSpace_eq]
  by_cases hlen : name.length > maxFieldNameLength
  · rw [getFieldName_long name hlen, if_pos hlen]
    cases name with
    | nil => cases hlen
    | cons b t => rfl
  · rw [if_neg hlen]
    cases getFieldName name with
    | some n => rfl
    | none => cases name <;> simp

theorem lineStep_colon (conn : Bool) (st : RState) (name v : Bytes)
    (hc : indexByte (name ++ 58 :: v) 58 = some name.length) :
    lineStep conn st (name ++ 58 :: v) = fieldStep conn st name (dropOneSpace v) := by
  unfold lineStep fieldStep
  rw [scanSegment_colon false name v hc]
  cases getFieldName name <;> simp

theorem lineStep_conforms (conn : Bool) (st : RState) (l : Bytes) (h : CleanInv st) :
    procLine .gosse conn (toI st) l = (toI (lineStep conn st l).1, (lineStep conn st l).2) ∧
    CleanInv (lineStep conn st l).1 := by
  refine ⟨?_, lineStep_inv conn st l h⟩
  by_cases hl : l = []
  · subst hl
    rw [lineStep_nil]
    by_cases hd : st.dirty = true
    · simp [procLine, dispatchable, hd, toI, mkEvent, doYield]
    · have hd' : st.dirty = false := by simpa using hd
      obtain ⟨h1, h2⟩ := h hd'
      simp [procLine, dispatchable, hd', toI, h1, h2]
  · rcases colon_split l with ⟨_, hc, hs⟩ | ⟨name, v, rfl, hn, hc, hs⟩
    · rw [lineStep_nocolon conn st l hl hc]
      exact procLine_field conn st l l [] hl (by simp [parseLine, hs])
    · rw [lineStep_colon conn st name v hc]
      by_cases hne : name = []
      · subst hne
        simp only [List.nil_append] at hs ⊢
        have : parseLine (58 :: v) = none := by simp [parseLine, hs]
        simp [procLine, this, fieldStep, getFieldName_nil]
      · apply procLine_field conn st _ name _ hl
        have hne' : name.isEmpty = false := by cases name <;> simp_all
        simp [parseLine, hs, hne']
end GoSSE.Proofs
