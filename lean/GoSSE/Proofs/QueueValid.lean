import GoSSE.Proofs.QueueFinite
/-!
The ValidReplayer: `resize`, the `doGC` loop, growing and shrinking, the invariant `VInv`.
-/
namespace GoSSE.Proofs
open GoSSE GoSSE.Spec GoSSE.Model

theorem copy_le (dst src : List Slot) (h : src.length ≤ dst.length) :
    Queue.copy dst src = (src ++ dst.drop src.length, src.length) := by
  simp [Queue.copy, Nat.min_eq_right h]

theorem copy_replicate (n : Nat) (src : List Slot) :
    Queue.copy (List.replicate n none) src =
      (src.take n ++ List.replicate (n - src.length) none, min n src.length) := by
  simp only [Queue.copy, List.length_replicate, List.drop_replicate]
  rw [← List.take_eq_take_min, show n - min n src.length = n - src.length by omega]

/-- the two `copy` calls of a wrapped `resize` into a fresh array: the second continues where the first stopped -/
theorem copy_copy_replicate (n : Nat) (a b : List Slot) :
    (Queue.copy (List.replicate n none) a).1.take (Queue.copy (List.replicate n none) a).2 ++
      (Queue.copy ((Queue.copy (List.replicate n none) a).1.drop (Queue.copy (List.replicate n none) a).2) b).1 =
    (a ++ b).take n ++ List.replicate (n - (a.length + b.length)) none := by
  have hl : (a.take n).length = min n a.length := List.length_take
  rw [copy_replicate n a]
  simp only
  rw [List.take_left' hl, List.drop_left' hl, copy_replicate _ b, List.take_append, List.append_assoc, Nat.sub_sub]

theorem slots_eq_take_drop {q : Queue} (hd : q.head ≤ q.buf.length) (hc : q.count ≤ q.buf.length) :
    slots q = ((q.buf ++ q.buf).drop q.head).take q.count := by
  apply List.ext_getElem?
  intro i
  rw [slots_getElem?, List.getElem?_take, List.getElem?_drop]
  by_cases hi : i < q.count
  · rw [if_pos hi, if_pos hi]
    have hspec := idx_spec q i
    rw [← slotAt_some (by omega)]
    rcases hspec with ⟨h1, h2⟩ | ⟨h1, h2⟩
    · rw [List.getElem?_append_left h1, h2]
    · rw [List.getElem?_append_right h1]; congr 1; omega
  · rw [if_neg hi, if_neg hi]

theorem WF.ring_nowrap {q : Queue} (h : WF q) (hlt : q.head < q.tail) :
    q.head + q.count = q.tail ∧ q.tail < q.buf.length := by
  have := h.cnt; have := h.tl; have := h.ring
  omega

theorem WF.ring_wrap {q : Queue} (h : WF q) (hge : ¬ q.head < q.tail) (hpos : 0 < q.count) :
    q.head + q.count = q.tail + q.buf.length ∧ q.head < q.buf.length ∧ q.tail < q.buf.length := by
  have := h.cnt; have := h.hd; have := h.tl; have := h.ring
  omega

theorem slots_of_nowrap {q : Queue} (h : WF q) (hlt : q.head < q.tail) :
    slots q = (q.buf.take q.tail).drop q.head := by
  obtain ⟨hr, ht⟩ := h.ring_nowrap hlt
  rw [slots_eq_take_drop (by omega) (by omega), List.drop_append_of_le_length (by omega),
    List.take_append_of_le_length (by rw [List.length_drop]; omega), List.drop_take]
  congr 1; omega

theorem slots_of_wrap {q : Queue} (h : WF q) (hge : ¬ q.head < q.tail) (hpos : 0 < q.count) :
    slots q = q.buf.drop q.head ++ q.buf.take q.tail := by
  obtain ⟨hr, hh, ht⟩ := h.ring_wrap hge hpos
  rw [slots_eq_take_drop (by omega) (by omega), List.drop_append_of_le_length (by omega), List.take_append,
    List.take_of_length_le (by rw [List.length_drop]; omega), List.length_drop]
  congr 2; omega

theorem DeadZero.all_none {q : Queue} (hz : DeadZero q) (hd : q.head ≤ q.buf.length) (hc : q.count = 0) :
    ∀ x ∈ q.buf, x = none := by
  intro x hx
  obtain ⟨j, hj, rfl⟩ := List.getElem_of_mem hx
  have := hz j hj (by unfold isLive; split <;> omega)
  rw [List.getElem?_eq_getElem hj] at this
  exact Option.some.inj this

/-- `DeadZero` matters for the empty queue only, of which `resize` copies the dead slots -/
theorem resize_eq {q : Queue} (h : WF q) (hz : DeadZero q) (n : Nat) (hn : q.count < n) :
    q.resize n = .ok ⟨slots q ++ List.replicate (n - q.count) none, 0, q.count, q.count⟩ := by
  unfold Queue.resize
  by_cases hlt : q.head < q.tail
  · obtain ⟨hr, ht⟩ := h.ring_nowrap hlt
    simp only [hlt, if_true, Nat.le_of_lt ht]
    rw [← slots_of_nowrap h hlt, copy_replicate, List.take_of_length_le (by rw [slots_length]; omega), slots_length]
  · by_cases hempty : q.count = 0
    · have hhd := h.hd; have htl := h.tl
      have hall := hz.all_none (by omega) hempty
      simp only [hlt, if_false, show q.head ≤ q.buf.length from by omega, show q.tail ≤ q.buf.length from by omega,
        if_true]
      rw [copy_copy_replicate, ← List.length_append, take_append_replicate _ _ fun x hx =>
        (List.mem_append.1 hx).elim (fun hx => hall x (List.mem_of_mem_drop hx)) fun hx => hall x (List.mem_of_mem_take hx)]
      simp [slots, hempty]
    · obtain ⟨hr, hh, ht⟩ := h.ring_wrap hlt (by omega)
      simp only [hlt, if_false, Nat.le_of_lt hh, Nat.le_of_lt ht, if_true]
      rw [copy_copy_replicate, ← List.length_append, ← slots_of_wrap h hlt (by omega), slots_length,
        List.take_of_length_le (by rw [slots_length]; omega)]

theorem slots_linear (l r : List Slot) (t : Nat) {c : Nat} (hc : l.length = c) : slots ⟨l ++ r, 0, t, c⟩ = l := by
  subst hc
  refine slots_ext rfl fun k hk => ?_
  have : idx ⟨l ++ r, 0, t, l.length⟩ k = k := by
    simp only [idx, Nat.zero_add]
    rw [if_pos (by rw [List.length_append]; omega)]
  rw [this]
  simp [slotAt, List.getElem?_append_left hk, List.getElem?_eq_getElem hk]

theorem resize_abs {q : Queue} (h : WF q) (hd : DeadZero q) (n : Nat) (hn : q.count < n) :
    ∃ q', q.resize n = .ok q' ∧ WF q' ∧ DeadZero q' ∧ abs q' = abs q ∧ q'.buf.length = n ∧ q'.count = q.count := by
  have hs : slots ⟨slots q ++ List.replicate (n - q.count) none, 0, q.count, q.count⟩ = slots q :=
    slots_linear _ _ _ (slots_length q)
  have hl : (slots q ++ List.replicate (n - q.count) none).length = n := by
    rw [List.length_append, slots_length, List.length_replicate]; omega
  refine ⟨_, resize_eq h hd n hn, ?_, ?_, abs_of_slots hs, hl, rfl⟩
  · refine .of_slots (by rw [hl]; exact Nat.le_of_lt hn) (by rw [hl]; show 0 < n; omega) (by rw [hl]; exact hn) ?_
      (by rw [hs]; exact h.slots_some)
    show wrap _ (0 + q.count) = q.count
    rw [Nat.zero_add, hl, wrap_of_lt hn]
  · intro i hi hnl
    rw [hl] at hi
    refine append_replicate_getElem? _ _ _ ?_ (by rw [slots_length]; omega)
    rw [slots_length]
    refine Nat.le_of_not_lt fun hlt => hnl ?_
    unfold isLive
    rw [if_pos (by rw [hl]; show 0 + q.count ≤ n; omega)]
    exact ⟨Nat.zero_le _, by show i < 0 + q.count; omega⟩

theorem gc_cons_expired {now : Int} {a : Entry} (t : List Entry) (h : a.exp ≤ now) : gc now (a :: t) = gc now t :=
  List.dropWhile_cons_of_pos (decide_eq_true h)

theorem gc_cons_live {now : Int} {a : Entry} (t : List Entry) (h : a.exp > now) : gc now (a :: t) = a :: t :=
  List.dropWhile_cons_of_neg fun hd => Int.not_le.2 h (of_decide_eq_true hd)

theorem gc_sublist (now : Int) (l : List Entry) : (gc now l).Sublist l := List.dropWhile_sublist _

/-- expiries are non-decreasing along the stored entries -/
def Sorted (l : List Entry) : Prop := List.Pairwise (fun a b => a.exp ≤ b.exp) l

theorem gc_all_unexpired (now : Int) {l : List Entry} (h : Sorted l) : ∀ e ∈ gc now l, e.exp > now := by
  induction l with
  | nil => intro e he; simp [gc] at he
  | cons a t ih =>
    by_cases ha : a.exp ≤ now
    · rw [gc_cons_expired t ha]; exact ih (List.Pairwise.of_cons h)
    · rw [gc_cons_live t (by omega)]
      intro e he
      rcases List.mem_cons.1 he with rfl | he
      · omega
      · have := List.rel_of_pairwise_cons h he
        omega

theorem gc_keeps (now : Int) (l : List Entry) : ∀ e ∈ l, e.exp > now → e ∈ gc now l := by
  induction l with
  | nil => intro e he; simp at he
  | cons a t ih =>
    intro e he hexp
    by_cases ha : a.exp ≤ now
    · rw [gc_cons_expired t ha]
      rcases List.mem_cons.1 he with rfl | he
      · omega
      · exact ih e he hexp
    · rw [gc_cons_live t (by omega)]; exact he

theorem gc_auto (now : Int) {cur : Option Nat} {l : List Entry} (h : AutoOK cur l) : AutoOK cur (gc now l) := by
  intro c hc
  rw [gc, List.dropWhile_eq_drop_findIdx_not]
  exact consec_drop (h c hc) _

theorem gcLoop_spec (fuel : Nat) (now : Int) {q : Queue} (h : WF q) (hd : DeadZero q) (hf : q.count ≤ fuel) :
    ∃ q', Valid.gcLoop fuel now q = .ok q' ∧ WF q' ∧ DeadZero q' ∧ abs q' = gc now (abs q) := by
  induction fuel generalizing q with
  | zero => exact ⟨q, rfl, h, hd, by rw [abs_nil_of_count (by omega)]; rfl⟩
  | succ fuel ih =>
    unfold Valid.gcLoop
    by_cases hpos : q.count > 0
    · obtain ⟨e0, hb, hcons⟩ := abs_cons h hpos
      rw [if_pos hpos, hb, hcons]
      by_cases hexp : e0.exp > now
      · rw [gc_cons_live _ hexp]
        exact ⟨q, by simp only [hexp, decide_true, if_true], h, hd, hcons⟩
      · obtain ⟨q1, hdq, hw1, hc1, hs1, hd1⟩ := dequeue_spec h hpos
        obtain ⟨q', hg, hw', hd', ha'⟩ := ih hw1 (hd1 hd) (by omega)
        rw [gc_cons_expired _ (by omega), ← abs_drop h hs1]
        exact ⟨q', by simp only [hexp, decide_false, Bool.false_eq_true, if_false, hdq, hg], hw', hd', ha'⟩
    · rw [if_neg hpos]
      exact ⟨q, rfl, h, hd, by rw [abs_nil_of_count (by omega)]; rfl⟩

/-- `resize` to the capacity `max c minCap` that `doGC` and `Put` choose: there is room afterwards -/
theorem resize_cap_abs {q : Queue} (h : WF q) (hd : DeadZero q) (c : Nat) (hc : 2 * q.count ≤ c) :
    ∃ q', q.resize (if c < minCap then minCap else c) = .ok q' ∧ WF q' ∧ DeadZero q' ∧ abs q' = abs q ∧
      q'.count < q'.buf.length := by
  have hn : q.count < if c < minCap then minCap else c := by unfold minCap; split <;> omega
  obtain ⟨q', hr, hw', hd', ha', hl', hc'⟩ := resize_abs h hd _ hn
  exact ⟨q', hr, hw', hd', ha', by rw [hl', hc']; exact hn⟩

theorem doGCq_spec (now : Int) {q : Queue} (h : WF q) (hd : DeadZero q) :
    ∃ q', Valid.doGCq now q = .ok q' ∧ WF q' ∧ DeadZero q' ∧ abs q' = gc now (abs q) := by
  obtain ⟨q1, hg, hw1, hd1, ha1⟩ := gcLoop_spec q.count now h hd (Nat.le_refl _)
  unfold Valid.doGCq
  rw [hg]
  simp only
  split
  · obtain ⟨q', hr, hw', hd', ha', _⟩ := resize_cap_abs hw1 hd1 (q1.buf.length / 2) (by omega)
    exact ⟨q', hr, hw', hd', ha'.trans ha1⟩
  · exact ⟨q1, rfl, hw1, hd1, ha1⟩

theorem growIfFull_spec {q : Queue} (h : WF q) (hd : DeadZero q) :
    ∃ q', Valid.growIfFull q = .ok q' ∧ WF q' ∧ DeadZero q' ∧ abs q' = abs q ∧ q'.count < q'.buf.length := by
  unfold Valid.growIfFull
  split
  · exact resize_cap_abs h hd _ (by omega)
  · exact ⟨q, rfl, h, hd, rfl, by have := h.cnt; omega⟩

theorem grow_enqueue_spec {q : Queue} (h : WF q) (hd : DeadZero q) (e : Entry) :
    ∃ q1 q', Valid.growIfFull q = .ok q1 ∧ q1.enqueue e = .ok q' ∧ WF q' ∧ DeadZero q' ∧ abs q' = abs q ++ [e] := by
  obtain ⟨q1, hgrow, hw1, hd1, ha1, hroom⟩ := growIfFull_spec h hd
  obtain ⟨q', he, hw', _, ha', hz⟩ := enqueue_abs hw1 (by omega) e
  refine ⟨q1, q', hgrow, he, hw', hz hd1, ?_⟩
  rw [ha', takeLast_all _ _ (by rw [List.length_append, abs_length hw1]; exact hroom), ha1]

/-- invariant of a `ValidReplayer`; `t` is the latest instant the clock has shown -/
structure VInv (t : Int) (v : Valid) : Prop where
  wf : WF v.messages
  dead : DeadZero v.messages
  auto : AutoOK v.currentID (abs v.messages)
  sorted : Sorted (abs v.messages)
  bound : ∀ e ∈ abs v.messages, e.exp ≤ t + v.ttl

/-- the specification state a `ValidReplayer` stands for -/
def vspec (v : Valid) : VState :=
  { st := { log := abs v.messages, next := v.currentID }, lastGC := v.lastGC }

theorem VInv.congr {t : Int} {v v' : Valid} (h : VInv t v) (hm : v'.messages = v.messages)
    (hc : v'.currentID = v.currentID) (ht : v'.ttl = v.ttl) : VInv t v' :=
  ⟨hm ▸ h.wf, hm ▸ h.dead, hm ▸ hc ▸ h.auto, hm ▸ h.sorted, hm ▸ ht ▸ h.bound⟩

theorem VInv.mono {t now : Int} {v : Valid} (h : VInv t v) (hnow : t ≤ now) : VInv now v :=
  ⟨h.wf, h.dead, h.auto, h.sorted, fun e he => by have := h.bound e he; omega⟩

theorem sorted_snoc {l : List Entry} (h : Sorted l) (x : Entry) (hx : ∀ e ∈ l, e.exp ≤ x.exp) : Sorted (l ++ [x]) := by
  unfold Sorted
  rw [List.pairwise_append]
  refine ⟨h, by simp, ?_⟩
  intro a ha b hb
  simp at hb; subst hb
  exact hx a ha

theorem VInv.snoc {t now : Int} {v : Valid} (h : VInv t v) (hnow : t ≤ now) {q' : Queue} {cur' : Option Nat} {e : Entry}
    (hw : WF q') (hd : DeadZero q') (ha : abs q' = abs v.messages ++ [e]) (hauto : AutoOK cur' (abs q'))
    (hexp : e.exp = now + v.ttl) : VInv now { v with currentID := cur', messages := q' } := by
  have hold : ∀ x ∈ abs v.messages, x.exp ≤ e.exp := fun x hx => by have := h.bound x hx; omega
  refine ⟨hw, hd, hauto, ?_, ?_⟩
  · show Sorted (abs q')
    rw [ha]; exact sorted_snoc h.sorted e hold
  · show ∀ x ∈ abs q', x.exp ≤ now + v.ttl
    rw [ha, ← hexp]
    intro x hx
    rcases List.mem_append.1 hx with hx | hx
    · exact hold x hx
    · cases List.mem_singleton.1 hx; exact Int.le_refl _

theorem doGC_inv {t : Int} {v : Valid} (h : VInv t v) (now : Int) :
    ∃ q', v.doGC now = .ok { v with messages := q' } ∧ VInv t { v with messages := q' } ∧
      abs q' = gc now (abs v.messages) := by
  obtain ⟨q', hq, hw, hd, ha⟩ := doGCq_spec now h.wf h.dead
  refine ⟨q', by simp only [Valid.doGC, hq], ⟨hw, hd, ?_, ?_, ?_⟩, ha⟩
  · rw [ha]; exact gc_auto now h.auto
  · rw [ha]; exact h.sorted.sublist (gc_sublist now _)
  · rw [ha]; exact fun e he => h.bound e ((gc_sublist now _).subset he)

/-- `getD now` where `shouldGC` has `getD 0`: `shouldGC` is asked after the initialisation, when `lastGC` is `some (v.lastGC.getD now)` -/
theorem gcIfDue_spec {t : Int} {v : Valid} (h : VInv t v) (now : Int) :
    ∃ v1, v.gcIfDue now = .ok v1 ∧ VInv t v1 ∧ v1.ttl = v.ttl ∧ v1.gcInterval = v.gcInterval ∧
      ({ log := abs v1.messages, next := v1.currentID } : State) =
        (if decide (v.gcInterval > 0 ∧ now - v.lastGC.getD now ≥ v.gcInterval) = true
          then { log := gc now (abs v.messages), next := v.currentID }
          else { log := abs v.messages, next := v.currentID }) ∧
      v1.lastGC = some (if decide (v.gcInterval > 0 ∧ now - v.lastGC.getD now ≥ v.gcInterval) = true then now
        else v.lastGC.getD now) := by
  have hv0 : (if v.lastGC.isNone = true then { v with lastGC := some now } else v) =
      { v with lastGC := some (v.lastGC.getD now) } := by
    obtain ⟨l, _, _, _, _⟩ := v
    cases l <;> rfl
  unfold Valid.gcIfDue
  simp only [hv0, Valid.shouldGC, Option.getD_some, ← Bool.decide_and]
  by_cases hdue : v.gcInterval > 0 ∧ now - v.lastGC.getD now ≥ v.gcInterval
  · simp only [hdue, and_self, decide_true, if_true]
    obtain ⟨q', hgc, hinv', ha'⟩ := doGC_inv (h.congr (v' := { v with lastGC := some (v.lastGC.getD now) }) rfl rfl rfl) now
    rw [hgc]
    exact ⟨_, rfl, hinv'.congr rfl rfl rfl, rfl, rfl, by rw [ha'], rfl⟩
  · simp only [hdue, decide_false, Bool.false_eq_true, if_false]
    exact ⟨_, rfl, h.congr rfl rfl rfl, rfl, rfl, rfl, rfl⟩

end GoSSE.Proofs
