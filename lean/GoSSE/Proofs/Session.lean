import GoSSE.Spec.HttpLog
/-!
Helper lemmas for C16, session part: what one `doUpgrade` / `writeAll` / `Send` / `Flush` emits,
for every fault schedule; the protocol automaton `phases` simulates `didUpgrade`.
-/
namespace GoSSE.Proofs.Session
open GoSSE GoSSE.Model.Session GoSSE.Model.Server GoSSE.Spec.HttpLog

theorem phases_nil (res : Res) (p : Phase) : phases res p [] = some p := rfl

theorem phases_cons (res : Res) (p : Phase) (e : Ev) (t : List Ev) :
    phases res p (e :: t) = (stepPhase res p e).bind fun q => phases res q t :=
  List.foldlM_cons ..

theorem phases_append (res : Res) (p : Phase) (a b : List Ev) :
    phases res p (a ++ b) = (phases res p a).bind fun q => phases res q b :=
  List.foldlM_append ..

theorem phases_cons_eq_some {res : Res} {p r : Phase} {e : Ev} {t : List Ev} :
    phases res p (e :: t) = some r ↔ ∃ q, stepPhase res p e = some q ∧ phases res q t = some r := by
  rw [phases_cons, Option.bind_eq_some_iff]

theorem phases_append_eq_some {res : Res} {p r : Phase} {a b : List Ev} :
    phases res p (a ++ b) = some r ↔ ∃ q, phases res p a = some q ∧ phases res q b = some r := by
  rw [phases_append, Option.bind_eq_some_iff]

theorem firstErr_cons_none {e : Ev} (t : List Ev) (h : e.err = none) : firstErr (e :: t) = firstErr t := by
  simp only [firstErr, List.findSome?_cons, h]

theorem firstErr_cons_some {e : Ev} {k : Nat} (t : List Ev) (h : e.err = some k) : firstErr (e :: t) = some k := by
  simp only [firstErr, List.findSome?_cons, h]

theorem firstErr_append_clean {a : List Ev} (b : List Ev) (h : ∀ e ∈ a, e.err = none) :
    firstErr (a ++ b) = firstErr b := by
  induction a with
  | nil => rfl
  | cons e t ih =>
    rw [List.cons_append, firstErr_cons_none _ (h e List.mem_cons_self)]
    exact ih fun x hx => h x (List.mem_cons_of_mem _ hx)

theorem firstErr_clean {evs : List Ev} (h : ∀ e ∈ evs, e.err = none) : firstErr evs = none := by
  rw [← List.append_nil evs, firstErr_append_clean [] h]; rfl

theorem bodyOf_cons (e : Ev) (t : List Ev) : bodyOf (e :: t) = e.body ++ bodyOf t := List.flatMap_cons ..

theorem bodyOf_append (a b : List Ev) : bodyOf (a ++ b) = bodyOf a ++ bodyOf b := List.flatMap_append ..

theorem Ev.body_of_not_write {e : Ev} (h : e.isWrite = false) : e.body = [] := by
  cases e with
  | write => cases h
  | _ => rfl

theorem bodyOf_eq_nil {evs : List Ev} (h : ∀ x ∈ evs, x.isWrite = false) : bodyOf evs = [] := by
  induction evs with
  | nil => rfl
  | cons e t ih =>
    obtain ⟨he, ht⟩ := List.forall_mem_cons.mp h
    rw [bodyOf_cons, Ev.body_of_not_write he, ih ht]; rfl

theorem stepPhase_fresh {res : Res} {e : Ev} {q : Phase} :
    stepPhase res .fresh e = some q ↔ e = upgradeHeader res ∧ q = .headerSet := by
  cases e <;> simp [stepPhase, upgradeHeader, eq_comm]

theorem stepPhase_headerSet {res : Res} {e : Ev} {q : Phase} :
    stepPhase res .headerSet e = some q ↔
      ∃ err, e = .flush res.lvl res.kind err ∧ q = if err.isNone then .upgraded else .fresh := by
  cases e with
  | flush l k err =>
    simp only [stepPhase, Option.ite_none_right_eq_some, Option.some.injEq, Ev.flush.injEq]
    exact ⟨fun ⟨⟨h1, h2⟩, h3⟩ => ⟨err, ⟨h1, h2, rfl⟩, h3.symm⟩, fun ⟨_, ⟨h1, h2, h3⟩, h4⟩ => ⟨⟨h1, h2⟩, h3 ▸ h4.symm⟩⟩
  | _ => simp [stepPhase]

theorem stepPhase_upgraded {res : Res} {e : Ev} {q : Phase} :
    stepPhase res .upgraded e = some q ↔
      q = .upgraded ∧ ((∃ a p err, e = .write res.lvl a p err) ∨ ∃ err, e = .flush res.lvl res.kind err) := by
  cases e <;> simp [stepPhase, and_comm, eq_comm (a := Phase.upgraded)]

theorem write_needs_upgraded (res : Res) (p : Phase) (e : Ev) (q : Phase)
    (h : stepPhase res p e = some q) (hw : e.isWrite = true) : p = .upgraded := by
  cases p with
  | upgraded => rfl
  | fresh => rw [(stepPhase_fresh.mp h).1] at hw; cases hw
  | headerSet => obtain ⟨_, he, _⟩ := stepPhase_headerSet.mp h; rw [he] at hw; cases hw

theorem headerSet_needs_fresh (res : Res) (p : Phase) (e : Ev) (q : Phase)
    (h : stepPhase res p e = some q) (hw : e.isHeaderSet = true) :
    p = .fresh ∧ q = .headerSet ∧ e = upgradeHeader res := by
  cases p with
  | fresh => exact ⟨rfl, (stepPhase_fresh.mp h).2, (stepPhase_fresh.mp h).1⟩
  | headerSet => obtain ⟨_, he, _⟩ := stepPhase_headerSet.mp h; rw [he] at hw; cases hw
  | upgraded =>
    obtain ⟨_, ⟨_, _, _, he⟩ | ⟨_, he⟩⟩ := stepPhase_upgraded.mp h <;> rw [he] at hw <;> cases hw

theorem reach_upgraded (res : Res) (pre : List Ev) (p : Phase) (h : phases res p pre = some .upgraded) :
    p = .upgraded ∨
    (p = .headerSet ∧ ∃ c, pre = .flush res.lvl res.kind none :: c) ∨
    ∃ a c, pre = a ++ [upgradeHeader res, .flush res.lvl res.kind none] ++ c := by
  induction pre generalizing p with
  | nil => exact Or.inl (Option.some.inj h)
  | cons e t ih =>
    obtain ⟨q, hq, ht⟩ := phases_cons_eq_some.mp h
    cases p with
    | upgraded => exact Or.inl rfl
    | fresh =>
      obtain ⟨rfl, rfl⟩ := stepPhase_fresh.mp hq
      rcases ih _ ht with h1 | ⟨_, c, rfl⟩ | ⟨a, c, rfl⟩
      · cases h1
      · exact Or.inr (Or.inr ⟨[], c, rfl⟩)
      · exact Or.inr (Or.inr ⟨_ :: a, c, rfl⟩)
    | headerSet =>
      obtain ⟨err, rfl, rfl⟩ := stepPhase_headerSet.mp hq
      cases err with
      | none => exact Or.inr (Or.inl ⟨rfl, t, rfl⟩)
      | some k =>
        -- a failed flush: back to `fresh`
        rcases ih _ ht with h1 | ⟨h1, _⟩ | ⟨a, c, rfl⟩
        · cases h1
        · cases h1
        · exact Or.inr (Or.inr ⟨_ :: a, c, rfl⟩)

theorem upgraded_stays (res : Res) (evs : List Ev) (q : Phase) (h : phases res .upgraded evs = some q) :
    q = .upgraded ∧ ∀ e ∈ evs, e.isHeaderSet = false := by
  induction evs with
  | nil => exact ⟨(Option.some.inj h).symm, List.forall_mem_nil _⟩
  | cons e t ih =>
    obtain ⟨p, hp, ht⟩ := phases_cons_eq_some.mp h
    obtain ⟨rfl, he⟩ := stepPhase_upgraded.mp hp
    refine ⟨(ih ht).1, List.forall_mem_cons.mpr ⟨?_, (ih ht).2⟩⟩
    obtain ⟨_, _, _, rfl⟩ | ⟨_, rfl⟩ := he <;> rfl

theorem not_upgraded_yet (res : Res) (evs : List Ev) (p q : Phase) (h : phases res p evs = some q)
    (hq : q ≠ .upgraded) :
    p ≠ .upgraded ∧ ∀ e ∈ evs, e.isHeaderSet = true ∨ ∃ l k j, e = .flush l k (some j) := by
  induction evs generalizing p with
  | nil => cases Option.some.inj h; exact ⟨hq, List.forall_mem_nil _⟩
  | cons e t ih =>
    obtain ⟨r, hr, ht⟩ := phases_cons_eq_some.mp h
    obtain ⟨hr', hall⟩ := ih r ht
    cases p with
    | upgraded => exact absurd (stepPhase_upgraded.mp hr).1 hr'
    | fresh =>
      obtain ⟨rfl, _⟩ := stepPhase_fresh.mp hr
      exact ⟨nofun, List.forall_mem_cons.mpr ⟨Or.inl rfl, hall⟩⟩
    | headerSet =>
      obtain ⟨err, rfl, rfl⟩ := stepPhase_headerSet.mp hr
      cases err with
      | none => exact absurd rfl hr'
      | some j => exact ⟨nofun, List.forall_mem_cons.mpr ⟨Or.inr ⟨_, _, j, rfl⟩, hall⟩⟩

theorem phases_upgraded_of_writes (res : Res) (evs : List Ev)
    (h : ∀ e ∈ evs, ∃ a p err, e = .write res.lvl a p err) : phases res .upgraded evs = some .upgraded := by
  induction evs with
  | nil => rfl
  | cons e t ih =>
    obtain ⟨he, ht⟩ := List.forall_mem_cons.mp h
    exact phases_cons_eq_some.mpr ⟨_, stepPhase_upgraded.mpr ⟨rfl, Or.inl he⟩, ih ht⟩

theorem phases_upgrade_pair (res : Res) (e : Option Nat) :
    phases res .fresh [upgradeHeader res, .flush res.lvl res.kind e] =
      some (if e.isNone then .upgraded else .fresh) :=
  phases_cons_eq_some.mpr ⟨_, stepPhase_fresh.mpr ⟨rfl, rfl⟩,
    phases_cons_eq_some.mpr ⟨_, stepPhase_headerSet.mpr ⟨e, rfl, rfl⟩, rfl⟩⟩

/-- the events of a call that returned `err`: clean up to a possible last, failing one -/
def Good (evs : List Ev) (err : Option Nat) : Prop :=
  (err = none ∧ ∀ e ∈ evs, e.err = none) ∨
  (∃ a e k, evs = a ++ [e] ∧ (∀ x ∈ a, x.err = none) ∧ e.err = some k ∧ err = some k)

theorem Good.nil : Good [] none := Or.inl ⟨rfl, List.forall_mem_nil _⟩

theorem Good.clean_of_none {evs : List Ev} (h : Good evs none) : ∀ e ∈ evs, e.err = none := by
  rcases h with ⟨_, h⟩ | ⟨_, _, _, _, _, _, h⟩
  · exact h
  · cases h

theorem Good.append {a b : List Ev} {r : Option Nat} (ha : Good a none) (hb : Good b r) : Good (a ++ b) r := by
  have hall : ∀ b', (∀ e ∈ b', e.err = none) → ∀ e ∈ a ++ b', e.err = none :=
    fun b' h e he => (List.mem_append.mp he).elim (ha.clean_of_none e) (h e)
  rcases hb with ⟨h1, h2⟩ | ⟨b', e, k, h1, h2, h3, h4⟩
  · exact Or.inl ⟨h1, hall b h2⟩
  · exact Or.inr ⟨a ++ b', e, k, by rw [h1, List.append_assoc], hall b' h2, h3, h4⟩

theorem Good.single (e : Ev) : Good [e] e.err := by
  cases h : e.err with
  | none => exact Or.inl ⟨rfl, List.forall_mem_singleton.mpr h⟩
  | some k => exact Or.inr ⟨[], e, k, rfl, List.forall_mem_nil _, h, rfl⟩

theorem Good.cons {e : Ev} {t : List Ev} {r : Option Nat} (he : e.err = none) (h : Good t r) : Good (e :: t) r :=
  Good.append (a := [e]) (he ▸ Good.single e) h

theorem Good.firstErr {evs : List Ev} {r : Option Nat} (h : Good evs r) : firstErr evs = r := by
  rcases h with ⟨rfl, h2⟩ | ⟨a, e, k, rfl, h2, h3, rfl⟩
  · exact firstErr_clean h2
  · rw [firstErr_append_clean _ h2, firstErr_cons_some [] h3]

theorem Good.stops {evs : List Ev} {r : Option Nat} (h : Good evs r) {a b : List Ev} {e : Ev}
    (hs : evs = a ++ e :: b) (he : e.err ≠ none) : b = [] ∧ r = e.err := by
  rcases h with ⟨_, h2⟩ | ⟨a', e', k, h1, h2, h3, h4⟩
  · exact absurd (h2 e (by simp [hs])) he
  · -- `e` failed, so it is not in the clean part `a'`: it is the last event `e'`
    rcases List.eq_nil_or_concat b with rfl | ⟨b', x, rfl⟩
    · obtain ⟨_, h5⟩ := List.append_inj' (h1.symm.trans hs) rfl
      cases h5
      exact ⟨rfl, by rw [h4, h3]⟩
    · have h5 : a' ++ [e'] = (a ++ e :: b') ++ [x] := by
        rw [← h1, hs, List.concat_eq_append, List.append_assoc, List.cons_append]
      exact absurd (h2 e (by rw [(List.append_inj' h5 rfl).1]; simp)) he

theorem wWrite_ok {sched : Sched} {c : Nat} (lvl : Nat) (p : Bytes) (h : sched c = none) :
    wWrite sched lvl c p = (.write lvl p p none, none) := by
  simp only [wWrite, h]

theorem wWrite_fail {sched : Sched} {c n : Nat} (lvl : Nat) (p : Bytes) (h : sched c = some n) :
    wWrite sched lvl c p = (.write lvl (p.take n) p (some c), some c) := by
  simp only [wWrite, h]

theorem wWrite_err (sched : Sched) (lvl c : Nat) (p : Bytes) :
    (wWrite sched lvl c p).1.err = (wWrite sched lvl c p).2 := by
  unfold wWrite; cases sched c <;> rfl

theorem wFlush_err (sched : Sched) (lvl : Nat) (k : FlushKind) (c : Nat) :
    (wFlush sched lvl k c).1.err = (wFlush sched lvl k c).2 := rfl

theorem wFlush_ev (sched : Sched) (lvl : Nat) (k : FlushKind) (c : Nat) :
    (wFlush sched lvl k c).1 = .flush lvl k (wFlush sched lvl k c).2 := rfl

theorem wFlush_err_call (sched : Sched) (lvl : Nat) (k : FlushKind) (c j : Nat)
    (h : (wFlush sched lvl k c).2 = some j) : j = c ∧ k = .flushError ∧ sched c ≠ none := by
  unfold wFlush at h
  cases k <;> cases hs : sched c <;> simp_all

theorem wWrite_isWrite (sched : Sched) (lvl c : Nat) (p : Bytes) :
    ∃ a e, (wWrite sched lvl c p).1 = .write lvl a p e := by
  unfold wWrite; cases sched c <;> exact ⟨_, _, rfl⟩

theorem writeAll_cons_fail {sched : Sched} {c n : Nat} (lvl : Nat) (p : Bytes) (ps : List Bytes)
    (h : sched c = some n) :
    writeAll sched lvl c (p :: ps) = ⟨[.write lvl (p.take n) p (some c)], c + 1, some c⟩ := by
  simp only [writeAll, wWrite_fail lvl p h]

theorem writeAll_cons_ok {sched : Sched} {c : Nat} (lvl : Nat) (p : Bytes) (ps : List Bytes) (h : sched c = none) :
    writeAll sched lvl c (p :: ps) = ⟨.write lvl p p none :: (writeAll sched lvl (c + 1) ps).evs,
      (writeAll sched lvl (c + 1) ps).calls, (writeAll sched lvl (c + 1) ps).err⟩ := by
  simp only [writeAll, wWrite_ok lvl p h]

theorem writeAll_good (sched : Sched) (lvl : Nat) (ws : List Bytes) (c : Nat) :
    Good (writeAll sched lvl c ws).evs (writeAll sched lvl c ws).err := by
  induction ws generalizing c with
  | nil => exact Good.nil
  | cons p ps ih =>
    cases h : sched c with
    | some n => rw [writeAll_cons_fail lvl p ps h]; exact Good.single (.write lvl (p.take n) p (some c))
    | none => rw [writeAll_cons_ok lvl p ps h]; exact (ih (c + 1)).cons rfl

theorem writeAll_writes (sched : Sched) (lvl : Nat) (ws : List Bytes) (c : Nat) :
    ∀ e ∈ (writeAll sched lvl c ws).evs, ∃ a p err, e = .write lvl a p err := by
  induction ws generalizing c with
  | nil => exact List.forall_mem_nil _
  | cons p ps ih =>
    cases h : sched c with
    | some n => rw [writeAll_cons_fail lvl p ps h]; exact List.forall_mem_singleton.mpr ⟨_, _, _, rfl⟩
    | none => rw [writeAll_cons_ok lvl p ps h]; exact List.forall_mem_cons.mpr ⟨⟨_, _, _, rfl⟩, ih (c + 1)⟩

theorem writeAll_noFlush (sched : Sched) (lvl : Nat) (ws : List Bytes) (c : Nat) :
    ∀ e ∈ (writeAll sched lvl c ws).evs, e.isWrite = true := by
  intro e he
  obtain ⟨_, _, _, rfl⟩ := writeAll_writes sched lvl ws c e he
  rfl

theorem writeAll_body (sched : Sched) (lvl : Nat) (ws : List Bytes) (c : Nat) :
    ((writeAll sched lvl c ws).err = none ∧ bodyOf (writeAll sched lvl c ws).evs = ws.flatten) ∨
    (∃ j p n, ws[j]? = some p ∧ sched (c + j) = some n ∧ (writeAll sched lvl c ws).err = some (c + j) ∧
      bodyOf (writeAll sched lvl c ws).evs = (ws.take j).flatten ++ p.take n) := by
  induction ws generalizing c with
  | nil => exact Or.inl ⟨rfl, rfl⟩
  | cons p ps ih =>
    cases hs : sched c with
    | some n =>
      rw [writeAll_cons_fail lvl p ps hs]
      exact Or.inr ⟨0, p, n, rfl, hs, rfl, (List.append_nil _).trans (List.nil_append _).symm⟩
    | none =>
      rw [writeAll_cons_ok lvl p ps hs]
      rcases ih (c + 1) with ⟨h1, h2⟩ | ⟨j, q, n, h1, h2, h3, h4⟩
      · exact Or.inl ⟨h1, by rw [bodyOf_cons, h2]; rfl⟩
      · rw [Nat.add_right_comm, Nat.add_assoc] at h2 h3
        exact Or.inr ⟨j + 1, q, n, h1, h2, h3, by rw [bodyOf_cons, h4]; exact (List.append_assoc ..).symm⟩

theorem take_flatten_prefix (ws : List Bytes) (j n : Nat) (p : Bytes) (h : ws[j]? = some p) :
    (ws.take j).flatten ++ p.take n <+: ws.flatten := by
  induction ws generalizing j with
  | nil => cases h
  | cons w t ih =>
    cases j with
    | zero =>
      obtain rfl : w = p := Option.some.inj h
      exact (List.take_prefix n w).trans (List.prefix_append _ _)
    | succ j =>
      rw [List.take_succ_cons, List.flatten_cons, List.flatten_cons, List.append_assoc]
      exact (List.prefix_append_right_inj w).mpr (ih j h)

def phaseOf (s : Session) : Phase := if s.didUpgrade then .upgraded else .fresh

theorem phaseOf_upgraded {s : Session} (h : s.didUpgrade = true) : phaseOf s = .upgraded := if_pos h

theorem phaseOf_fresh {s : Session} (h : s.didUpgrade = false) : phaseOf s = .fresh :=
  if_neg (by rw [h]; exact Bool.false_ne_true)

theorem doUpgrade_upgraded {s : Session} (sched : Sched) (c : Nat) (h : s.didUpgrade = true) :
    doUpgrade sched s c = ⟨[], s, c, none⟩ := by
  simp only [doUpgrade, h, if_true]

theorem doUpgrade_fresh {sched : Sched} {s : Session} {c : Nat} {e : Option Nat} (h : s.didUpgrade = false)
    (he : (wFlush sched s.res.lvl s.res.kind c).2 = e) :
    doUpgrade sched s c =
      ⟨[upgradeHeader s.res, .flush s.res.lvl s.res.kind e], { s with didUpgrade := e.isNone }, c + 1, e⟩ := by
  obtain ⟨res, d⟩ := s
  cases h
  simp only [doUpgrade, Bool.false_eq_true, if_false, wFlush_ev, he]
  cases e <;> rfl

/-- what every call guarantees, from any state and under any schedule -/
structure StepFacts (s : Session) (r : Step) : Prop where
  res : r.s.res = s.res
  phases : phases s.res (phaseOf s) r.evs = some (phaseOf r.s)
  good : Good r.evs r.err

theorem doUpgrade_facts (sched : Sched) (s : Session) (c : Nat) : StepFacts s (doUpgrade sched s c) := by
  cases h : s.didUpgrade with
  | true => rw [doUpgrade_upgraded sched c h]; exact ⟨rfl, phases_nil .., Good.nil⟩
  | false =>
    rw [doUpgrade_fresh h rfl]
    refine ⟨rfl, ?_, (Good.single (.flush ..)).cons rfl⟩
    rw [phaseOf_fresh h]
    exact phases_upgrade_pair ..

theorem doUpgrade_ok {sched : Sched} {s : Session} {c : Nat} (h : (doUpgrade sched s c).err = none) :
    (doUpgrade sched s c).s.didUpgrade = true := by
  cases hd : s.didUpgrade with
  | true => rw [doUpgrade_upgraded sched c hd]; exact hd
  | false => rw [doUpgrade_fresh hd rfl] at h ⊢; exact congrArg Option.isNone h

theorem doUpgrade_noWrite (sched : Sched) (s : Session) (c : Nat) :
    ∀ x ∈ (doUpgrade sched s c).evs, x.isWrite = false := by
  cases hd : s.didUpgrade with
  | true => rw [doUpgrade_upgraded sched c hd]; exact List.forall_mem_nil _
  | false =>
    rw [doUpgrade_fresh hd rfl]
    exact List.forall_mem_cons.mpr ⟨rfl, List.forall_mem_singleton.mpr rfl⟩

theorem send_of_upgrade_fail {sched : Sched} {s : Session} {c k : Nat} (m : Msg)
    (h : (doUpgrade sched s c).err = some k) : send sched s c m = doUpgrade sched s c := by
  simp only [send, h]
  rw [← h]

theorem send_of_upgrade_ok {sched : Sched} {s : Session} {c : Nat} (m : Msg) (h : (doUpgrade sched s c).err = none) :
    send sched s c m =
      let u := doUpgrade sched s c
      let w := writeAll sched s.res.lvl u.calls (encodeWrites m)
      ⟨u.evs ++ w.evs, u.s, w.calls, w.err⟩ := by
  simp only [send, h]

/-- `Flush` on a session that has not upgraded: the upgrade's flush is the flush -/
theorem flush_fresh {sched : Sched} {s : Session} {c : Nat} (h : s.didUpgrade = false) :
    flush sched s c = doUpgrade sched s c := by
  rw [flush, doUpgrade_fresh h rfl, h]
  cases (wFlush sched s.res.lvl s.res.kind c).2 <;> rfl

theorem flush_upgraded {sched : Sched} {s : Session} {c : Nat} {e : Option Nat} (h : s.didUpgrade = true)
    (he : (wFlush sched s.res.lvl s.res.kind c).2 = e) :
    flush sched s c = ⟨[.flush s.res.lvl s.res.kind e], s, c + 1, e⟩ := by
  simp only [flush, doUpgrade_upgraded sched c h, h, wFlush_ev, he, beq_self_eq_true, if_true, List.nil_append]

theorem step_facts (sched : Sched) (s : Session) (c : Nat) (op : Op) : StepFacts s (step sched s c op) := by
  cases op with
  | send m =>
    cases h : (doUpgrade sched s c).err with
    | some k => rw [step, send_of_upgrade_fail m h]; exact doUpgrade_facts sched s c
    | none =>
      -- the upgrade, if still due, has reached `upgraded`; the writes stay there
      rw [step, send_of_upgrade_ok m h]
      have f := doUpgrade_facts sched s c
      refine ⟨f.res, phases_append_eq_some.mpr ⟨_, f.phases, ?_⟩, (h ▸ f.good).append (writeAll_good ..)⟩
      rw [phaseOf_upgraded (doUpgrade_ok h)]
      exact phases_upgraded_of_writes _ _ (writeAll_writes _ _ _ _)
  | flush =>
    cases h : s.didUpgrade with
    | false => rw [step, flush_fresh h]; exact doUpgrade_facts sched s c
    | true =>
      rw [step, flush_upgraded h rfl]
      refine ⟨rfl, ?_, Good.single (.flush ..)⟩
      rw [phaseOf_upgraded h]
      exact phases_cons_eq_some.mpr ⟨_, stepPhase_upgraded.mpr ⟨rfl, Or.inr ⟨_, rfl⟩⟩, rfl⟩

theorem run_entry {sched : Sched} {s : Session} {c : Nat} {ops : List Op} {e : Entry}
    (he : e ∈ (runOps sched s c ops).obs) :
    ∃ s' c' op, s'.res = s.res ∧ e = ⟨op, (step sched s' c' op).evs, (step sched s' c' op).err⟩ := by
  induction ops generalizing s c with
  | nil => cases he
  | cons op ops ih =>
    rcases List.mem_cons.mp he with rfl | he
    · exact ⟨s, c, op, rfl, rfl⟩
    · obtain ⟨s', c', op', hres, rfl⟩ := ih he
      exact ⟨s', c', op', hres.trans (step_facts sched s c op).res, rfl⟩

theorem run_res (sched : Sched) (s : Session) (c : Nat) (ops : List Op) : (runOps sched s c ops).s.res = s.res := by
  induction ops generalizing s c with
  | nil => rfl
  | cons op ops ih => exact (ih ..).trans (step_facts sched s c op).res

theorem run_ops (sched : Sched) (s : Session) (c : Nat) (ops : List Op) :
    (runOps sched s c ops).obs.map (·.op) = ops := by
  induction ops generalizing s c with
  | nil => rfl
  | cons op ops ih => exact congrArg (op :: ·) (ih ..)

theorem run_phases (sched : Sched) (s : Session) (c : Nat) (ops : List Op) :
    phases s.res (phaseOf s) (trace (runOps sched s c ops).obs) = some (phaseOf (runOps sched s c ops).s) := by
  induction ops generalizing s c with
  | nil => rfl
  | cons op ops ih =>
    have f := step_facts sched s c op
    refine phases_append_eq_some.mpr ⟨_, f.phases, ?_⟩
    rw [← f.res]
    exact ih ..

theorem trace_append (a b : List Entry) : trace (a ++ b) = trace a ++ trace b := List.flatMap_append ..

theorem bodyOf_trace (obs : List Entry) : bodyOf (trace obs) = (obs.map fun e => bodyOf e.evs).flatten := by
  induction obs with
  | nil => rfl
  | cons e t ih => exact (bodyOf_append ..).trans (congrArg (bodyOf e.evs ++ ·) ih)

end GoSSE.Proofs.Session
