import GoSSE.Proofs.ParserRange
/-!
# The client's read loop always ends with an error value, and with the right one

Fuel sufficiency of `Scanner.scan`, `Parser.next` and `readLoop`, plus the small invariants
needed to read off `Parser.err` of the final parser.
-/
namespace GoSSE.Proofs.ClientRead
open GoSSE GoSSE.Spec GoSSE.Model

/-! ## `splitFunc` -/

/-- a token consumes at least one and at most all pending bytes, and is no longer than the advance -/
theorem splitFunc_some (data : Bytes) (atEOF : Bool) (tok : Bytes)
    (h : (splitFunc data atEOF).2 = some tok) :
    1 ≤ data.length ∧ 1 ≤ (splitFunc data atEOF).1 ∧ (splitFunc data atEOF).1 ≤ data.length ∧
      tok.length ≤ (splitFunc data atEOF).1 := by
  obtain ⟨h1, h2, _, h4⟩ := splitFunc_token_range data atEOF tok h
  refine ⟨by omega, h1, h2, ?_⟩
  rw [h4, List.length_drop, List.length_take]
  omega

theorem splitFunc_atEOF (data : Bytes) (h : data ≠ []) : (splitFunc data true).2 ≠ none := by
  have : data.length ≠ 0 := by simpa using h
  unfold splitFunc
  simp [this]

theorem splitFunc_nil (atEOF : Bool) : (splitFunc [] atEOF).2 = none := by
  simp [splitFunc]

/-! ## `Source` -/

/-- `Source.size` as a structural recursion -/
def sz : List Bytes → Nat
  | [] => 0
  | c :: r => c.length + 1 + sz r

theorem foldl_sz (l : List Bytes) (n : Nat) :
    l.foldl (fun n c => n + c.length + 1) n = n + sz l := by
  induction l generalizing n with
  | nil => simp [sz]
  | cons c r ih => simp [List.foldl, ih, sz]; omega

theorem size_eq (s : Source) : s.size = sz s.chunks := by simp [Source.size, foldl_sz]

/-- a `Read` into a destination with room never loses bytes, keeps the kind of the final
error, and makes progress unless it reports the end -/
theorem read_spec (s : Source) (free : Nat) (hf : 0 < free) :
    (s.read free).2.2.endErr = s.endErr ∧
    (s.read free).1.length ≤ free ∧
    (s.read free).1.length + (s.read free).2.2.size ≤ s.size ∧
    ((s.read free).2.1 = none → (s.read free).2.2.size + 1 ≤ s.size) ∧
    (∀ e, (s.read free).2.1 = some e → e = if s.endErr then SErr.read else SErr.eof) := by
  obtain ⟨chunks, endErr, ewl⟩ := s
  cases chunks with
  | nil => exact ⟨rfl, Nat.zero_le _, Nat.le_of_eq (Nat.zero_add _), nofun, fun e h => (Option.some.inj h).symm⟩
  | cons c rest =>
    unfold Source.read
    simp only [size_eq, sz]
    by_cases hfit : c.length ≤ free
    · rw [if_pos hfit]
      by_cases hlast : (rest.isEmpty && ewl) = true
      · rw [if_pos hlast]
        exact ⟨rfl, hfit, by simp only [sz]; omega, nofun, fun e h => (Option.some.inj h).symm⟩
      · rw [if_neg hlast]
        dsimp only
        exact ⟨rfl, hfit, by omega, fun _ => by omega, nofun⟩
    · rw [if_neg hfit]
      dsimp only
      simp only [sz, List.length_take, List.length_drop]
      exact ⟨trivial, by omega, by omega, fun _ => by omega, nofun⟩

/-! ## `Scanner.scan`, one iteration at a time -/

/-- the token of the split call of one `Scan` iteration, if there is one -/
def tokOf (s : Scanner) : Option Bytes :=
  if !s.data.isEmpty || s.err.isSome then (splitFunc s.data s.err.isSome).2 else none

def shift (s : Scanner) : Scanner :=
  if s.start > 0 && (s.start + s.data.length == s.bufLen || s.start > s.bufLen / 2)
  then { s with start := 0 } else s

def grow (s : Scanner) : Scanner :=
  { s with bufLen := min (if s.bufLen * 2 == 0 then startBufSize else s.bufLen * 2) s.maxTok.toNat,
           start := 0 }

def readInto (s : Scanner) : Scanner :=
  let q := s.src.read (s.bufLen - (s.start + s.data.length))
  { s with data := s.data ++ q.1, err := q.2.1, src := q.2.2, pulled := s.pulled + q.1.length }

theorem scan_succ (fuel : Nat) (s : Scanner) :
    Scanner.scan (fuel + 1) s =
      match tokOf s with
      | some t => (some ((splitFunc s.data s.err.isSome).1, t),
          { s with start := s.start + (splitFunc s.data s.err.isSome).1,
                   data := s.data.drop (splitFunc s.data s.err.isSome).1 })
      | none =>
        if s.err.isSome then (none, { s with start := 0, data := [] })
        else if (shift s).start + (shift s).data.length == (shift s).bufLen then
          if ((shift s).bufLen : Int) ≥ (shift s).maxTok then (none, { shift s with err := some .tooLong })
          else Scanner.scan fuel (readInto (grow (shift s)))
        else Scanner.scan fuel (readInto (shift s)) := by
  rw [Scanner.scan]
  unfold tokOf
  cases (!s.data.isEmpty || s.err.isSome)
  · rfl
  · generalize splitFunc s.data s.err.isSome = q
    obtain ⟨a, o⟩ := q
    cases o <;> rfl

/-! ## Scanner invariant and the fuel of `Scanner.scan` -/

/-- a scanner error is the token-size error or the one the source ends with -/
def ErrOK (s : Scanner) : Prop :=
  ∀ e, s.err = some e → e = SErr.tooLong ∨ e = (if s.src.endErr then SErr.read else SErr.eof)

/-- the pending bytes lie inside the buffer; the error is a legitimate one -/
def SInv (s : Scanner) : Prop := s.start + s.data.length ≤ s.bufLen ∧ ErrOK s

/-- bytes not yet handed out as tokens (plus one per outstanding read) -/
def M (s : Scanner) : Nat := s.data.length + s.src.size

def ScanPost (s : Scanner) (r : Option (Nat × Bytes) × Scanner) : Prop :=
  SInv r.2 ∧ r.2.src.endErr = s.src.endErr ∧ (r.1 = none → r.2.err.isSome = true) ∧
    (∀ adv tok, r.1 = some (adv, tok) → tok.length + M r.2 ≤ M s ∧ M r.2 + 1 ≤ M s)

theorem ScanPost.mono {s1 s : Scanner} {r} (h : ScanPost s1 r)
    (he : s1.src.endErr = s.src.endErr) (hm : M s1 ≤ M s) : ScanPost s r := by
  obtain ⟨a, b, c, d⟩ := h
  refine ⟨a, by rw [b, he], c, ?_⟩
  intro adv tok h
  have := d adv tok h
  omega

theorem shift_spec (s : Scanner) (hI : SInv s) :
    SInv (shift s) ∧ (shift s).data = s.data ∧ (shift s).src = s.src ∧ (shift s).err = s.err := by
  obtain ⟨h1, h2⟩ := hI
  unfold shift
  split
  · refine ⟨⟨?_, h2⟩, rfl, rfl, rfl⟩
    simp only []; omega
  · exact ⟨⟨h1, h2⟩, rfl, rfl, rfl⟩

theorem readInto_spec (s : Scanner) (hI : SInv s) (hfree : s.start + s.data.length < s.bufLen) :
    SInv (readInto s) ∧ (readInto s).src.endErr = s.src.endErr ∧ M (readInto s) ≤ M s ∧
      ((readInto s).err = none → (readInto s).src.size + 1 ≤ s.src.size) := by
  obtain ⟨h1, _⟩ := hI
  have hf : 0 < s.bufLen - (s.start + s.data.length) := by omega
  obtain ⟨r1, r2, r3, r4, r5⟩ := read_spec s.src _ hf
  unfold readInto
  simp only [SInv, ErrOK, M, List.length_append]
  refine ⟨⟨by omega, ?_⟩, r1, by omega, r4⟩
  intro e he
  rw [r1]
  exact Or.inr (r5 e he)

/-- growing the buffer below the token limit makes room -/
theorem grow_room (s : Scanner) (h : s.start + s.data.length ≤ s.bufLen)
    (hmax : ¬ ((s.bufLen : Int) ≥ s.maxTok)) :
    (grow s).start + (grow s).data.length < (grow s).bufLen := by
  simp only [grow, startBufSize, beq_iff_eq]
  split <;> omega

theorem tokOf_some (s : Scanner) (t : Bytes) (h : tokOf s = some t) :
    (splitFunc s.data s.err.isSome).2 = some t := by
  unfold tokOf at h
  split at h
  · exact h
  · simp at h

/-- with an error pending, no token means no pending bytes -/
theorem tokOf_none_err (s : Scanner) (h : tokOf s = none) (he : s.err.isSome = true) : s.data = [] := by
  unfold tokOf at h
  simp only [he, Bool.or_true, if_true] at h
  by_cases hd : s.data = []
  · exact hd
  · exact absurd h (splitFunc_atEOF _ hd)

/-- `Scanner.scan` does not run out of fuel: without a token the scanner has an error -/
theorem scan_spec (fuel : Nat) (s : Scanner) (hI : SInv s) (h1 : 1 ≤ fuel)
    (h2 : s.err = none → s.src.size + 2 ≤ fuel) : ScanPost s (Scanner.scan fuel s) := by
  induction fuel generalizing s with
  | zero => omega
  | succ fuel ih =>
    rw [scan_succ]
    cases ht : tokOf s with
    | some t =>
      obtain ⟨a, b, c, d⟩ := splitFunc_some _ _ _ (tokOf_some s t ht)
      obtain ⟨i1, i2⟩ := hI
      refine ⟨⟨?_, i2⟩, rfl, nofun, ?_⟩
      · simp only [List.length_drop]; omega
      · rintro _ _ ⟨⟩
        simp only [M, List.length_drop]
        omega
    | none =>
      dsimp only
      by_cases hse : s.err.isSome = true
      · rw [if_pos hse]
        exact ⟨⟨Nat.zero_le _, hI.2⟩, rfl, fun _ => hse, nofun⟩
      · rw [if_neg hse]
        have h2' := h2 (Option.not_isSome_iff_eq_none.1 hse)
        have key : ∀ s1 : Scanner, SInv s1 → s1.start + s1.data.length < s1.bufLen →
            s1.src = s.src → s1.data = s.data → ScanPost s (Scanner.scan fuel (readInto s1)) := by
          intro s1 hI1 hfree hsrc hdata
          obtain ⟨r1, r2, r3, r4⟩ := readInto_spec s1 hI1 hfree
          rw [hsrc] at r2 r4
          have hM : M s1 = M s := by unfold M; rw [hsrc, hdata]
          refine (ih (readInto s1) r1 (by omega) ?_).mono r2 (by omega)
          intro hn
          have := r4 hn
          omega
        obtain ⟨⟨j1, j2⟩, jd, js, je⟩ := shift_spec s hI
        split
        · split
          · exact ⟨⟨j1, fun e h => .inl (Option.some.inj h).symm⟩, congrArg _ js, fun _ => rfl, nofun⟩
          · rename_i hfull hmax
            apply key
            · exact ⟨Nat.le_of_lt (grow_room _ j1 hmax), j2⟩
            · exact grow_room _ j1 hmax
            · exact js
            · exact jd
        · rename_i hfull
          apply key _ ⟨j1, j2⟩ _ js jd
          simp only [beq_iff_eq] at hfull
          omega

/-! ## `FP.next` and `Parser.next` -/

theorem nlIndex_pos (s : Bytes) (h : (newlineIndex s).2 ≠ 0) (hne : s ≠ []) :
    (s.drop ((newlineIndex s).1 + (newlineIndex s).2)).length + 1 ≤ s.length := by
  have : s.length ≠ 0 := by simpa using hne
  simp only [List.length_drop]
  omega

/-- a field is only produced after consuming at least one byte -/
theorem fpNext_some (fuel : Nat) (f : FP) (h : (FP.next fuel f).1.isSome = true) :
    (FP.next fuel f).2.data.length + 1 ≤ f.data.length := by
  induction fuel generalizing f with
  | zero => simp [FP.next] at h
  | succ n ih =>
    unfold FP.next at h ⊢
    split
    · rename_i h0; simp [h0] at h
    · rename_i h0
      rw [if_neg h0] at h
      simp only [] at h ⊢
      have hne : f.data ≠ [] := by simpa using h0
      split
      · rename_i h1; simp [h1] at h
      · rename_i h1
        rw [if_neg h1] at h
        have hnz : (newlineIndex f.data).2 ≠ 0 := by
          simpa [nextChunk] using h1
        have hlen := nlIndex_pos f.data hnz hne
        split
        · simp only [nextChunk]; exact hlen
        · rename_i hs
          simp only [hs] at h
          have := ih _ h
          simp only [nextChunk] at this ⊢
          omega

theorem reset_len (f : FP) (d : Bytes) : (f.reset d).data.length ≤ d.length := by
  unfold FP.reset FP.doRemoveBOM
  split
  · simp
  · simp

theorem next_field (fuel : Nat) (p : Parser) (f : Field) (fp : FP)
    (h : FP.next (p.fp.data.length + 1) p.fp = (some f, fp)) :
    Parser.next (fuel + 1) p = (some f, { p with fp := fp }) := by
  conv => lhs; unfold Parser.next
  simp only [h]

theorem next_none (fuel : Nat) (p : Parser) (fp : FP) (sc : Scanner)
    (h : FP.next (p.fp.data.length + 1) p.fp = (none, fp))
    (hs : Scanner.scan (p.sc.src.size + p.sc.data.length + 4) p.sc = (none, sc)) :
    Parser.next (fuel + 1) p = (none, { p with fp := fp, sc := sc, gone := sc.err == some .eof }) := by
  conv => lhs; unfold Parser.next
  simp only [h, hs]

theorem next_tok (fuel : Nat) (p : Parser) (fp : FP) (sc : Scanner) (adv : Nat) (tok : Bytes)
    (h : FP.next (p.fp.data.length + 1) p.fp = (none, fp))
    (hs : Scanner.scan (p.sc.src.size + p.sc.data.length + 4) p.sc = (some (adv, tok), sc)) :
    Parser.next (fuel + 1) p =
      Parser.next fuel { p with
        fp := (if fp.started || (p.skippedBlankLines || adv > tok.length) then fp.setRemoveBOM false else fp).reset tok,
        sc := sc, skippedBlankLines := p.skippedBlankLines || adv > tok.length } := by
  conv => lhs; unfold Parser.next
  simp only [h, hs]

/-- bytes not yet turned into fields -/
def M3 (p : Parser) : Nat := p.fp.data.length + M p.sc

def NextPost (p : Parser) (r : Option Field × Parser) : Prop :=
  SInv r.2.sc ∧ r.2.sc.src.endErr = p.sc.src.endErr ∧
    (r.1 = none → r.2.sc.err.isSome = true ∧ r.2.gone = (r.2.sc.err == some .eof)) ∧
    (r.1.isSome = true → M3 r.2 + 1 ≤ M3 p)

theorem NextPost.mono {p1 p : Parser} {r} (h : NextPost p1 r)
    (he : p1.sc.src.endErr = p.sc.src.endErr) (hm : M3 p1 ≤ M3 p) : NextPost p r := by
  obtain ⟨a, b, c, d⟩ := h
  refine ⟨a, by rw [b, he], c, ?_⟩
  intro h
  have := d h
  omega

/-- `Parser.next` does not run out of fuel: it yields a field and consumed a byte, or the
scanner has stopped with an error -/
theorem next_spec (fuel : Nat) (p : Parser) (hI : SInv p.sc) (hf : M p.sc + 1 ≤ fuel) :
    NextPost p (Parser.next fuel p) := by
  induction fuel generalizing p with
  | zero => omega
  | succ fuel ih =>
    cases hfp : FP.next (p.fp.data.length + 1) p.fp with
    | mk o fp =>
    cases o with
    | some f =>
      rw [next_field fuel p f fp hfp]
      refine ⟨hI, rfl, by simp, ?_⟩
      intro _
      have := fpNext_some (p.fp.data.length + 1) p.fp (by simp [hfp])
      simp only [hfp] at this
      simp only [M3]
      omega
    | none =>
      have hsc := scan_spec (p.sc.src.size + p.sc.data.length + 4) p.sc hI (by omega) (by intro; omega)
      cases hs : Scanner.scan (p.sc.src.size + p.sc.data.length + 4) p.sc with
      | mk o sc =>
      rw [hs] at hsc
      obtain ⟨s1, s2, s3, s4⟩ := hsc
      cases o with
      | none =>
        rw [next_none fuel p fp sc hfp hs]
        exact ⟨s1, s2, fun _ => ⟨s3 rfl, rfl⟩, by simp⟩
      | some at' =>
        obtain ⟨adv, tok⟩ := at'
        rw [next_tok fuel p fp sc adv tok hfp hs]
        obtain ⟨m1, m2⟩ := s4 adv tok rfl
        have hr := reset_len (if fp.started || (p.skippedBlankLines || adv > tok.length) then fp.setRemoveBOM false else fp) tok
        refine (ih _ s1 ?_).mono s2 ?_
        · show M sc + 1 ≤ fuel
          have : M sc + 1 ≤ M p.sc := m2
          omega
        · simp only [M3]
          have : tok.length + M sc ≤ M p.sc := m1
          omega

/-! ## `readLoop` -/

/-- what `readLoop` leaves behind when the consumer never stops it -/
def Final (src : Source) (p : Parser) : Prop :=
  SInv p.sc ∧ p.sc.src.endErr = src.endErr ∧ p.sc.err.isSome = true ∧
    p.gone = (p.sc.err == some .eof)

theorem readLoop_none (conn : Bool) (fuel : Nat) (p p' : Parser) (st : RState) (outs : List Out)
    (h : p.next (p.sc.src.size + p.sc.data.length + 4) = (none, p')) :
    readLoop conn none (fuel + 1) p st outs = (p', st, outs, false) := by
  conv => lhs; unfold readLoop
  simp only [h]

theorem readLoop_some (conn : Bool) (fuel : Nat) (p p' : Parser) (f : Field) (st : RState)
    (outs : List Out) (h : p.next (p.sc.src.size + p.sc.data.length + 4) = (some f, p')) :
    readLoop conn none (fuel + 1) p st outs =
      readLoop conn none fuel p' (readField conn st f).1 (outs ++ (readField conn st f).2) := by
  conv => lhs; unfold readLoop
  simp only [h, stopped, Bool.and_false, Bool.false_eq_true, if_false]

/-- `readLoop` does not run out of fuel: it ends because `Parser.next` returned `false` -/
theorem readLoop_spec (conn : Bool) (fuel : Nat) (p : Parser) (st : RState) (outs : List Out)
    (hI : SInv p.sc) (hf : M3 p + 1 ≤ fuel) :
    (readLoop conn none fuel p st outs).2.2.2 = false ∧
      Final p.sc.src (readLoop conn none fuel p st outs).1 := by
  induction fuel generalizing p st outs with
  | zero => omega
  | succ fuel ih =>
    have hn := next_spec (p.sc.src.size + p.sc.data.length + 4) p hI (by simp only [M]; omega)
    cases hp : p.next (p.sc.src.size + p.sc.data.length + 4) with
    | mk o p' =>
    rw [hp] at hn
    obtain ⟨n1, n2, n3, n4⟩ := hn
    cases o with
    | none =>
      rw [readLoop_none conn fuel p p' st outs hp]
      obtain ⟨a, b⟩ := n3 rfl
      exact ⟨rfl, n1, n2, a, b⟩
    | some f =>
      rw [readLoop_some conn fuel p p' f st outs hp]
      have hm : M3 p' + 1 ≤ M3 p := n4 rfl
      obtain ⟨a, b, c, d, e⟩ := ih p' _ _ n1 (by omega)
      exact ⟨a, b, by rw [c]; exact n2, d, e⟩

/-! ## `implRun` -/

theorem mkScanner_inv (src : Source) (cfg : Option (Nat × Int)) :
    SInv (mkScanner src cfg) ∧ (mkScanner src cfg).src = src ∧ (mkScanner src cfg).data = [] := by
  unfold mkScanner
  split
  · simp [SInv, ErrOK]
  · simp [SInv, ErrOK]

/-- `Parser.err` of a parser whose scanner has stopped -/
theorem err_of_final (src : Source) (p : Parser) (h : Final src p) :
    p.err ≠ PErr.none ∧ (p.err = PErr.unexpectedEOF → src.endErr = false) ∧
      (src.endErr = true → p.err = PErr.read ∨ p.err = PErr.tooLong) := by
  obtain ⟨⟨_, hE⟩, h2, h3, h4⟩ := h
  cases he : p.sc.err with
  | none => simp [he] at h3
  | some e =>
    have hE' := hE e he
    rw [h2] at hE'
    cases e with
    | eof =>
      have hg : p.gone = true := by simp [h4, he]
      have hend : src.endErr = false := by
        cases hb : src.endErr with
        | false => rfl
        | true => simp [hb] at hE'
      unfold Parser.err
      simp only [hg, he, hend]
      cases p.fp.err <;> simp
    | read =>
      have hg : p.gone = false := by simp [h4, he]
      have hend : src.endErr = true := by
        cases hb : src.endErr with
        | true => rfl
        | false => simp [hb] at hE'
      unfold Parser.err
      simp [hg, he, hend]
    | tooLong =>
      have hg : p.gone = false := by simp [h4, he]
      unfold Parser.err
      simp [hg, he]

/-- the parser `implRun` ends with, without a consumer that stops -/
def finalParser (conn : Bool) (lastID : Bytes) (src : Source) (cfg : Option (Nat × Int)) : Parser :=
  (readLoop conn none (src.size + 4) { sc := mkScanner src cfg } { lastID := lastID } []).1

theorem finalParser_final (conn : Bool) (lastID : Bytes) (src : Source) (cfg : Option (Nat × Int)) :
    (readLoop conn none (src.size + 4) { sc := mkScanner src cfg } { lastID := lastID } []).2.2.2 = false ∧
      Final src (finalParser conn lastID src cfg) := by
  obtain ⟨i1, i2, i3⟩ := mkScanner_inv src cfg
  have := readLoop_spec conn (src.size + 4) { sc := mkScanner src cfg } { lastID := lastID } [] i1
    (by simp [M3, M, i2, i3])
  simp only [i2] at this
  exact this

/-- the error `implRun` reports is `Parser.err` of the final parser, a clean end of a
non-connection read excepted -/
theorem implRun_err (conn : Bool) (lastID : Bytes) (src : Source) (cfg : Option (Nat × Int)) :
    (implRun conn lastID src cfg none).2.1 =
      if (finalParser conn lastID src cfg).err == PErr.eof && !conn then PErr.none
      else (finalParser conn lastID src cfg).err := by
  obtain ⟨hflag, _⟩ := finalParser_final conn lastID src cfg
  unfold implRun finalParser
  simp only [hflag, stopped, Bool.false_eq_true, if_false]
  split
  · rename_i hc
    simp only [Bool.and_eq_true] at hc
    simp only [hc.2, Bool.true_and]
  · rfl

/-- R1: a connection's read never ends without an error value -/
theorem implRun_conn_ne_none (lastID : Bytes) (src : Source) (cfg : Option (Nat × Int)) :
    (implRun true lastID src cfg none).2.1 ≠ PErr.none := by
  rw [implRun_err]
  simp only [Bool.not_true, Bool.and_false, Bool.false_eq_true, if_false]
  exact (err_of_final src _ (finalParser_final true lastID src cfg).2).1

/-- R2: ErrUnexpectedEOF is only reported when the byte source ended cleanly (io.EOF) -/
theorem implRun_ueof_clean (conn : Bool) (lastID : Bytes) (src : Source) (cfg : Option (Nat × Int)) :
    (implRun conn lastID src cfg none).2.1 = PErr.unexpectedEOF → src.endErr = false := by
  rw [implRun_err]
  intro h
  apply (err_of_final src _ (finalParser_final conn lastID src cfg).2).2.1
  split at h
  · exact absurd h (by decide)
  · exact h

/-- R3: if the byte source ends with an error, that error (or the earlier token-size
error) is what is reported -/
theorem implRun_read_error (conn : Bool) (lastID : Bytes) (src : Source) (cfg : Option (Nat × Int)) :
    src.endErr = true → (implRun conn lastID src cfg none).2.1 = PErr.read ∨
      (implRun conn lastID src cfg none).2.1 = PErr.tooLong := by
  intro hend
  rw [implRun_err]
  have h := (err_of_final src _ (finalParser_final conn lastID src cfg).2).2.2 hend
  have hne : ((finalParser conn lastID src cfg).err == PErr.eof) = false := by
    cases h with
    | inl h => simp [h]
    | inr h => simp [h]
  simp only [hne, Bool.false_and, Bool.false_eq_true, if_false]
  exact h

end GoSSE.Proofs.ClientRead
