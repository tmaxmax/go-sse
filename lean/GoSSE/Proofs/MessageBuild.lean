import GoSSE.Proofs.MessageDecode
import GoSSE.Proofs.MessageFields
/-!
Helper lemmas tying the public API (`build ops`) to well-formedness and to the
specification-side description (`describe ops`).
-/
namespace GoSSE.Proofs
open GoSSE GoSSE.Spec GoSSE.Model

/-- Go's `time.Duration` is an `int64` -/
def BuildOp.Valid : BuildOp → Prop
  | .setRetry d => d ≤ (maxInt64 : Int)
  | _ => True

theorem tdiv_nonpos (d : Int) (h : d ≤ 0) : Int.tdiv d 1000000 ≤ 0 := by
  have h1 : 0 ≤ Int.tdiv (-d) 1000000 := Int.tdiv_nonneg (by omega) (by omega)
  rw [Int.neg_tdiv] at h1
  omega

theorem millis_facts (m : Message) (hr : m.retry ≤ (maxInt64 : Int)) (h0 : ¬ m.millis ≤ 0) :
    1 ≤ m.millis.toNat ∧ m.millis.toNat ≤ 9223372036854 ∧ ((m.millis.toNat : Nat) : Int) = m.millis := by
  unfold Message.millis at h0 ⊢
  have hpos : 0 ≤ m.retry := by
    by_cases hneg : m.retry < 0
    · exact absurd (tdiv_nonpos m.retry (by omega)) h0
    · omega
  rw [Int.tdiv_eq_ediv_of_nonneg hpos] at h0 ⊢
  unfold maxInt64 at hr
  refine ⟨by omega, by omega, by omega⟩

theorem retryOK_of_le (m : Message) (h : m.retry ≤ (maxInt64 : Int)) : RetryOK m := by
  by_cases h0 : m.millis ≤ 0
  · exact Or.inl h0
  · have mf := millis_facts m h h0
    obtain ⟨ds, hds, _⟩ := retryDigits_spec m.millis.toNat mf.1 (by omega)
    exact Or.inr (by rw [hds]; rfl)

theorem appendText_fields (m : Message) (ic : Bool) (strs : List Bytes) :
    (m.appendText ic strs).id = m.id ∧ (m.appendText ic strs).typ = m.typ ∧ (m.appendText ic strs).retry = m.retry := by
  unfold Message.appendText
  induction strs generalizing m with
  | nil => simp
  | cons s ss ih => simp only [List.foldl_cons]; have := ih { m with chunks := appendLoop ic s.length s m.chunks }; simpa using this

theorem appendText_chunks (m : Message) (ic : Bool) (strs : List Bytes) :
    (m.appendText ic strs).chunks = m.chunks ++ (strs.flatMap linesOf).map (fun l => ⟨l, ic⟩) := by
  unfold Message.appendText
  induction strs generalizing m with
  | nil => simp
  | cons s ss ih =>
    simp only [List.foldl_cons]
    rw [ih]
    simp [appendLoop_eq ic s.length s m.chunks (Nat.le_refl _), List.append_assoc]

theorem millis_appendText (m : Message) (ic : Bool) (strs : List Bytes) : (m.appendText ic strs).millis = m.millis := by
  unfold Message.millis; rw [(appendText_fields m ic strs).2.2]

theorem wf_appendText (m : Message) (hm : WF m) (ic : Bool) (strs : List Bytes) : WF (m.appendText ic strs) := by
  have hf := appendText_fields m ic strs
  refine ⟨?_, ?_, ?_, ?_⟩
  · intro c hc
    rw [appendText_chunks] at hc
    simp only [List.mem_append, List.mem_map, List.mem_flatMap] at hc
    rcases hc with hc | ⟨l, ⟨s, _, hl⟩, rfl⟩
    · exact hm.chunks c hc
    · exact linesOf_nlFree s l hl
  · rw [hf.1]; exact hm.id
  · rw [hf.2.1]; exact hm.typ
  · have := hm.retry
    unfold RetryOK at this ⊢
    rw [millis_appendText]; exact this

theorem newID_wf (v : Bytes) : (newID v).1.set = true → NlFree (newID v).1.value := by
  by_cases h : NlFree v
  · rw [newID_single v h]; exact fun _ => h
  · rw [newID_multi v h]; exact fun h' => nomatch h'

theorem wf_iff (m : Message) : WF m ↔ FieldsOK m ∧ RetryOK m :=
  ⟨fun h => ⟨⟨h.id, h.typ, h.chunks⟩, h.retry⟩, fun ⟨h, hr⟩ => ⟨h.chunks, h.id, h.typ, hr⟩⟩

theorem wf_empty : WF {} := (wf_iff _).2 ⟨fieldsOK_empty, Or.inl (by decide)⟩

theorem wf_apply (m : Message) (hm : WF m) (op : BuildOp) (hv : BuildOp.Valid op) : WF (m.apply op) := by
  cases op with
  | appendData s | appendComment s => exact wf_appendText m hm _ s
  | setID v => exact ⟨hm.chunks, newID_wf v, hm.typ, hm.retry⟩
  | setType v => exact ⟨hm.chunks, hm.id, newID_wf v, hm.retry⟩
  | setRetry d => exact ⟨hm.chunks, hm.id, hm.typ, retryOK_of_le _ hv⟩

theorem build_induction {P : Message → Prop} (h0 : P {})
    (hstep : ∀ (m : Message) (op : BuildOp), P m → BuildOp.Valid op → P (m.apply op))
    (ops : List BuildOp) (hv : ∀ op ∈ ops, BuildOp.Valid op) : P (build ops) := by
  unfold build
  generalize ({} : Message) = m at h0
  induction ops generalizing m with
  | nil => exact h0
  | cons op ops ih =>
    exact ih (fun o ho => hv o (List.mem_cons_of_mem _ ho)) _ (hstep m op h0 (hv op List.mem_cons_self))

theorem wf_build (ops : List BuildOp) (hv : ∀ op ∈ ops, BuildOp.Valid op) : WF (build ops) :=
  build_induction wf_empty (fun m op hm hv => wf_apply m hm op hv) ops hv

theorem build_retry_le (ops : List BuildOp) (hv : ∀ op ∈ ops, BuildOp.Valid op) : (build ops).retry ≤ (maxInt64 : Int) := by
  refine build_induction (P := fun m => m.retry ≤ (maxInt64 : Int)) (by decide) ?_ ops hv
  intro m op h hop
  cases op with
  | appendData s | appendComment s => show (m.appendText _ s).retry ≤ _; rw [(appendText_fields m _ s).2.2]; exact h
  | setID v | setType v => exact h
  | setRetry d => exact hop

theorem newID_built (v : Bytes) :
    (if (newID v).1.set then some (newID v).1.value else none) = (if hasNewline v then none else some v) := by
  by_cases h : NlFree v
  · rw [newID_single v h, hasNewline_eq_false.2 h]; rfl
  · rw [newID_multi v h, (not_nlFree_iff v).1 h]; rfl

theorem builtOf_appendText (m : Message) (ic : Bool) (s : List Bytes) :
    builtOf (m.appendText ic s) =
      { builtOf m with dataLines := (builtOf m).dataLines ++ if ic then [] else s.flatMap linesOf } := by
  have hf := appendText_fields m ic s
  simp only [builtOf, hf.1, hf.2.1, appendText_chunks, dataOf_append, dataOf_map]

theorem builtOf_apply (m : Message) (op : BuildOp) : builtOf (m.apply op) = (builtOf m).apply op := by
  cases op with
  | appendData s => exact builtOf_appendText m false s
  | appendComment s => exact (builtOf_appendText m true s).trans (by simp [Built.apply])
  | setID v =>
    show ({ id := if (newID v).1.set then some (newID v).1.value else none,
            typ := if m.typ.set then some m.typ.value else none, dataLines := dataOf m.chunks } : Built) = _
    rw [newID_built]; rfl
  | setType v =>
    show ({ id := if m.id.set then some m.id.value else none,
            typ := if (newID v).1.set then some (newID v).1.value else none, dataLines := dataOf m.chunks } : Built) = _
    rw [newID_built]; rfl
  | setRetry d => rfl

theorem builtOf_foldl (ops : List BuildOp) (m : Message) :
    builtOf (ops.foldl Message.apply m) = ops.foldl Built.apply (builtOf m) := by
  induction ops generalizing m with
  | nil => rfl
  | cons op ops ih => simp only [List.foldl_cons, ih, builtOf_apply]

theorem builtOf_build (ops : List BuildOp) : builtOf (build ops) = describe ops := by
  unfold build describe
  rw [builtOf_foldl]
  rfl

end GoSSE.Proofs
