import GoSSE.Model.Registry
/-!
Helper lemmas for C13: the association-list maps of the registry model, what subscribe / remove do
to the per-type id lists, and the invariant tying the model's script run to the specification's.
-/
namespace GoSSE.Proofs.ClientRegistry
open GoSSE GoSSE.Spec GoSSE.Spec.Client GoSSE.Model GoSSE.Model.Client

theorem get_cons (k : Bytes) (w : List Nat) (rest : TMap) (t : Bytes) :
    TMap.get ((k, w) :: rest) t = if k = t then some w else TMap.get rest t := by
  by_cases h : k = t <;> simp only [TMap.get, beq_iff_eq, h, if_true, if_false]

theorem set_cons (k : Bytes) (w : List Nat) (rest : TMap) (t : Bytes) (v : List Nat) :
    TMap.set ((k, w) :: rest) t v = if k = t then (k, v) :: rest else (k, w) :: TMap.set rest t v := by
  by_cases h : k = t <;> simp only [TMap.set, beq_iff_eq, h, if_true, if_false]

theorem del_cons (k : Bytes) (w : List Nat) (rest : TMap) (t : Bytes) :
    TMap.del ((k, w) :: rest) t = if k = t then TMap.del rest t else (k, w) :: TMap.del rest t := by
  by_cases h : k = t <;> simp only [TMap.del, beq_iff_eq, h, if_true, if_false]

theorem get_set_same (m : TMap) (t : Bytes) (v : List Nat) : (m.set t v).get t = some v := by
  induction m with
  | nil => exact (get_cons t v [] t).trans (if_pos rfl)
  | cons e rest ih =>
    obtain ⟨k, w⟩ := e
    rw [set_cons]
    by_cases h : k = t
    · rw [if_pos h, get_cons, if_pos h]
    · rw [if_neg h, get_cons, if_neg h, ih]

theorem get_set_other (m : TMap) (t t' : Bytes) (v : List Nat) (h : t' ≠ t) : (m.set t v).get t' = m.get t' := by
  induction m with
  | nil => exact (get_cons t v [] t').trans (if_neg (Ne.symm h))
  | cons e rest ih =>
    obtain ⟨k, w⟩ := e
    rw [set_cons]
    by_cases hk : k = t
    · have hkt : ¬ k = t' := hk ▸ Ne.symm h
      rw [if_pos hk, get_cons, get_cons, if_neg hkt, if_neg hkt]
    · rw [if_neg hk, get_cons, get_cons, ih]

theorem get_del_same (m : TMap) (t : Bytes) : (m.del t).get t = none := by
  induction m with
  | nil => rfl
  | cons e rest ih =>
    obtain ⟨k, w⟩ := e
    rw [del_cons]
    by_cases h : k = t
    · rw [if_pos h, ih]
    · rw [if_neg h, get_cons, if_neg h, ih]

theorem get_del_other (m : TMap) (t t' : Bytes) (h : t' ≠ t) : (m.del t).get t' = m.get t' := by
  induction m with
  | nil => rfl
  | cons e rest ih =>
    obtain ⟨k, w⟩ := e
    rw [del_cons, get_cons]
    by_cases hk : k = t
    · rw [if_pos hk, ih, if_neg (hk ▸ Ne.symm h)]
    · rw [if_neg hk, get_cons, ih]

theorem set_set (m : TMap) (t : Bytes) (v w : List Nat) : (m.set t v).set t w = m.set t w := by
  induction m with
  | nil => exact (set_cons t v [] t w).trans (if_pos rfl)
  | cons e rest ih =>
    obtain ⟨k, u⟩ := e
    rw [set_cons, set_cons]
    by_cases h : k = t
    · rw [if_pos h, if_pos h, set_cons, if_pos h]
    · rw [if_neg h, if_neg h, set_cons, if_neg h, ih]

def typedIds (r : Registry) (t : Bytes) : List Nat := (r.byType.get t).getD []

theorem dispatch_eq (r : Registry) (t : Bytes) : r.dispatch t = typedIds r t ++ r.all := by
  unfold Registry.dispatch
  show (if (typedIds r t).length + r.all.length == 0 then [] else typedIds r t ++ r.all) = _
  split
  · rename_i h
    have h' : (typedIds r t ++ r.all).length = 0 := by rw [List.length_append]; exact beq_iff_eq.mp h
    exact (List.length_eq_zero_iff.mp h').symm
  · rfl

theorem typedIds_add_same (r : Registry) (t : Bytes) :
    typedIds (r.addSubscriber t).1 t = typedIds r t ++ [r.next] := by
  unfold Registry.addSubscriber typedIds
  cases h : r.byType.get t with
  | none => simp only [get_set_same, Option.getD_some, Option.getD_none]
  | some v => simp only [get_set_same, h, Option.getD_some]

theorem typedIds_add_other (r : Registry) (t t' : Bytes) (h : t' ≠ t) :
    typedIds (r.addSubscriber t).1 t' = typedIds r t' := by
  unfold Registry.addSubscriber typedIds
  cases hg : r.byType.get t with
  | none => simp only [get_set_other _ _ _ _ h]
  | some v => simp only [get_set_other _ _ _ _ h]

theorem add_all (r : Registry) (t : Bytes) : (r.addSubscriber t).1.all = r.all := rfl

theorem add_next (r : Registry) (t : Bytes) : (r.addSubscriber t).1.next = r.next + 1 := rfl

theorem add_remover (r : Registry) (t : Bytes) : (r.addSubscriber t).2 = .typed t r.next := rfl

theorem typedIds_addAll (r : Registry) (t : Bytes) : typedIds r.addSubscriberToAll.1 t = typedIds r t := rfl

theorem remove_typed_none (r : Registry) (t : Bytes) (id : Nat) (h : r.byType.get t = none) :
    r.remove (.typed t id) = r := by simp only [Registry.remove, h]

theorem remove_typed_empty (r : Registry) (t : Bytes) (id : Nat) (inner : List Nat) (h : r.byType.get t = some inner)
    (he : (inner.filter (· != id)).isEmpty = true) :
    r.remove (.typed t id) = { r with byType := r.byType.del t } := by simp only [Registry.remove, h, he, if_true]

theorem remove_typed_nonempty (r : Registry) (t : Bytes) (id : Nat) (inner : List Nat) (h : r.byType.get t = some inner)
    (he : ¬ (inner.filter (· != id)).isEmpty = true) :
    r.remove (.typed t id) = { r with byType := r.byType.set t (inner.filter (· != id)) } := by
  simp only [Registry.remove, h, he, Bool.false_eq_true, if_false]

theorem remove_typed_byType (r : Registry) (t : Bytes) (id : Nat) :
    r.remove (.typed t id) = { r with byType := (r.remove (.typed t id)).byType } := by
  cases hg : r.byType.get t with
  | none => rw [remove_typed_none _ _ _ hg]
  | some inner =>
    by_cases he : (inner.filter (· != id)).isEmpty = true
    · rw [remove_typed_empty _ _ _ _ hg he]
    · rw [remove_typed_nonempty _ _ _ _ hg he]

theorem typedIds_remove_typed_same (r : Registry) (t : Bytes) (id : Nat) :
    typedIds (r.remove (.typed t id)) t = (typedIds r t).filter (· != id) := by
  cases h : r.byType.get t with
  | none => rw [remove_typed_none _ _ _ h]; simp only [typedIds, h, Option.getD_none, List.filter_nil]
  | some inner =>
    by_cases he : (inner.filter (· != id)).isEmpty = true
    · rw [remove_typed_empty _ _ _ _ h he]
      simp only [typedIds, get_del_same, h, Option.getD_none, Option.getD_some]
      exact (List.isEmpty_iff.mp he).symm
    · rw [remove_typed_nonempty _ _ _ _ h he]
      simp only [typedIds, get_set_same, h, Option.getD_some]

theorem typedIds_remove_typed_other (r : Registry) (t t' : Bytes) (id : Nat) (h : t' ≠ t) :
    typedIds (r.remove (.typed t id)) t' = typedIds r t' := by
  cases hg : r.byType.get t with
  | none => rw [remove_typed_none _ _ _ hg]
  | some inner =>
    by_cases he : (inner.filter (· != id)).isEmpty = true
    · rw [remove_typed_empty _ _ _ _ hg he]; simp only [typedIds, get_del_other _ _ _ h]
    · rw [remove_typed_nonempty _ _ _ _ hg he]; simp only [typedIds, get_set_other _ _ _ _ h]

theorem all_remove_typed (r : Registry) (t : Bytes) (id : Nat) : (r.remove (.typed t id)).all = r.all := by
  rw [remove_typed_byType]

theorem next_remove (r : Registry) (rm : Remover) : (r.remove rm).next = r.next := by
  cases rm with
  | all id => rfl
  | typed t id => rw [remove_typed_byType]

theorem typedIds_remove_all (r : Registry) (t : Bytes) (id : Nat) : typedIds (r.remove (.all id)) t = typedIds r t := rfl

theorem all_remove_all (r : Registry) (id : Nat) : (r.remove (.all id)).all = r.all.filter (· != id) := rfl

theorem remove_remove (r : Registry) (rm : Remover) : (r.remove rm).remove rm = r.remove rm := by
  cases rm with
  | all id => simp only [Registry.remove, List.filter_filter, Bool.and_self]
  | typed t id =>
    cases hg : r.byType.get t with
    | none => rw [remove_typed_none _ _ _ hg, remove_typed_none _ _ _ hg]
    | some inner =>
      by_cases he : (inner.filter (· != id)).isEmpty = true
      · rw [remove_typed_empty _ _ _ _ hg he]
        exact remove_typed_none _ _ _ (get_del_same _ _)
      · rw [remove_typed_nonempty _ _ _ _ hg he]
        have hf : (inner.filter (· != id)).filter (· != id) = inner.filter (· != id) := by
          rw [List.filter_filter]; simp only [Bool.and_self]
        rw [remove_typed_nonempty _ t id (inner.filter (· != id)) (get_set_same _ _ _) (by rw [hf]; exact he), hf]
        simp only [set_set]

/-! A subscription's filter is `some t` (events of type `t`) or `none` (all events); `idsOf r f` are the ids the
registry holds under filter `f`. Subscribing and removing then have one law each, whatever the filter. -/

def idsOf (r : Registry) : Option Bytes → List Nat
  | some t => typedIds r t
  | none => r.all

def addBy (r : Registry) : Option Bytes → Registry × Remover
  | some t => r.addSubscriber t
  | none => r.addSubscriberToAll

def remOf (k : Nat) : Option Bytes → Remover
  | some t => .typed t k
  | none => .all k

theorem remOf_id (k : Nat) (f : Option Bytes) : (remOf k f).id = k := by cases f <;> rfl

theorem remOf_inj (k : Nat) (f g : Option Bytes) (h : remOf k f = remOf k g) : f = g := by
  cases f <;> cases g <;> simp_all [remOf]

theorem exists_remOf (rm : Remover) : ∃ f, rm = remOf rm.id f := by
  cases rm with
  | typed t id => exact ⟨some t, rfl⟩
  | all id => exact ⟨none, rfl⟩

theorem addBy_next (r : Registry) (f : Option Bytes) : (addBy r f).1.next = r.next + 1 := by cases f <;> rfl

theorem addBy_remover (r : Registry) (f : Option Bytes) : (addBy r f).2 = remOf r.next f := by cases f <;> rfl

theorem idsOf_addBy (r : Registry) (f g : Option Bytes) :
    idsOf (addBy r f).1 g = if g = f then idsOf r g ++ [r.next] else idsOf r g := by
  cases f with
  | none => cases g with
    | none => rfl
    | some t => exact typedIds_addAll r t
  | some ev => cases g with
    | none => exact add_all r ev
    | some t =>
      by_cases ht : t = ev
      · subst ht; rw [if_pos rfl]; exact typedIds_add_same r t
      · rw [if_neg (fun e => ht (Option.some.inj e))]; exact typedIds_add_other r ev t ht

theorem idsOf_remove (r : Registry) (k : Nat) (f g : Option Bytes) :
    idsOf (r.remove (remOf k f)) g = if g = f then (idsOf r g).filter (· != k) else idsOf r g := by
  cases f with
  | none => cases g with
    | none => rfl
    | some t => rfl
  | some ev => cases g with
    | none => exact all_remove_typed r ev k
    | some t =>
      by_cases ht : t = ev
      · subst ht; rw [if_pos rfl]; exact typedIds_remove_typed_same r t k
      · rw [if_neg (fun e => ht (Option.some.inj e))]; exact typedIds_remove_typed_other r ev t k ht

def isTyped (t : Bytes) (s : Nat × Option Bytes) : Bool := s.2 == some t
def isAll (s : Nat × Option Bytes) : Bool := s.2 == none

/-- the relation between the model state and the specification state after the same script -/
structure Inv (ms : RegState) (ss : SubState) : Prop where
  next : ms.reg.next = ss.count
  len : ms.removers.length = ss.count
  ids : ∀ (k : Nat) (rm : Remover), ms.removers[k]? = some rm → rm.id = k
  live : ∀ (k : Nat) (f : Option Bytes), (k, f) ∈ ss.live → ms.removers[k]? = some (remOf k f)
  typed : ∀ t : Bytes, typedIds ms.reg t = (ss.live.filter (isTyped t)).map (·.1)
  all : ms.reg.all = (ss.live.filter isAll).map (·.1)
  bound : ∀ (k : Nat) (f : Option Bytes), (k, f) ∈ ss.live → k < ss.count
  nodup : (ss.live.map (·.1)).Nodup

theorem inv_init : Inv ({} : RegState) ({} : SubState) := by
  constructor <;> simp [typedIds, TMap.get]

theorem Inv.byFilter {ms : RegState} {ss : SubState} (h : Inv ms ss) (g : Option Bytes) :
    idsOf ms.reg g = (ss.live.filter (·.2 == g)).map (·.1) := by
  cases g with
  | none => exact h.all
  | some t => exact h.typed t

/-! Live subscriptions: `(id, filter)` entries with distinct ids below a counter `n`; a subscribe appends `(n, f)`, a
remover drops the entry of its id. -/

abbrev Live := List (Nat × Option Bytes)

theorem getElem?_concat {α : Type} (l : List α) (a b : α) (j : Nat) :
    (l ++ [a])[j]? = some b ↔ l[j]? = some b ∨ (j = l.length ∧ a = b) := by
  rcases Nat.lt_trichotomy j l.length with hlt | heq | hgt
  · rw [List.getElem?_append_left hlt]
    exact ⟨Or.inl, fun h => h.elim id (fun h' => absurd h'.1 (Nat.ne_of_lt hlt))⟩
  · subst heq
    rw [List.getElem?_concat_length, List.getElem?_eq_none (Nat.le_refl _)]
    constructor
    · intro h; exact Or.inr ⟨rfl, Option.some.inj h⟩
    · rintro (h | ⟨_, h⟩)
      · cases h
      · rw [h]
  · rw [List.getElem?_eq_none (by rw [List.length_append]; exact hgt), List.getElem?_eq_none (Nat.le_of_lt hgt)]
    constructor
    · intro h; cases h
    · rintro (h | ⟨h, _⟩)
      · cases h
      · exact absurd h (Nat.ne_of_gt hgt)

theorem forall_getElem?_concat {α : Type} {P : Nat → α → Prop} {l : List α} {a : α}
    (hl : ∀ j b, l[j]? = some b → P j b) (ha : P l.length a) : ∀ j b, (l ++ [a])[j]? = some b → P j b := by
  intro j b h
  rcases (getElem?_concat l a b j).mp h with h | ⟨hj, hab⟩
  · exact hl j b h
  · rw [hj, ← hab]; exact ha

theorem live_push_getElem? {ρ : Type} {rems : List ρ} {l : Live} {n : Nat} (mk : Nat → Option Bytes → ρ)
    (hlen : rems.length = n) (hl : ∀ k f, (k, f) ∈ l → rems[k]? = some (mk k f)) (f : Option Bytes) :
    ∀ k g, (k, g) ∈ l ++ [(n, f)] → (rems ++ [mk n f])[k]? = some (mk k g) := by
  intro k g hm
  apply (getElem?_concat _ _ _ _).mpr
  rcases List.mem_append.mp hm with hm | hm
  · exact Or.inl (hl k g hm)
  · cases List.mem_singleton.mp hm
    exact Or.inr ⟨hlen.symm, rfl⟩

theorem bound_push {l : Live} {n : Nat} (hb : ∀ k f, (k, f) ∈ l → k < n) (f : Option Bytes) :
    ∀ k g, (k, g) ∈ l ++ [(n, f)] → k < n + 1 := by
  intro k g hm
  rcases List.mem_append.mp hm with hm | hm
  · exact Nat.lt_succ_of_lt (hb k g hm)
  · cases List.mem_singleton.mp hm; exact Nat.lt_succ_self n

theorem nodup_push {l : Live} {n : Nat} (hb : ∀ k f, (k, f) ∈ l → k < n) (hn : (l.map (·.1)).Nodup) (f : Option Bytes) :
    ((l ++ [(n, f)]).map (·.1)).Nodup := by
  rw [List.map_append, List.nodup_append]
  refine ⟨hn, List.nodup_cons.mpr ⟨List.not_mem_nil, List.nodup_nil⟩, ?_⟩
  intro a ha b hb' e
  obtain ⟨⟨k, g⟩, hm, rfl⟩ := List.mem_map.mp ha
  have e' : k = n := e.trans (List.mem_singleton.mp hb')
  exact Nat.lt_irrefl n (e' ▸ hb k g hm)

theorem mem_drop {l : Live} {k : Nat} {a : Nat × Option Bytes} (h : a ∈ l.filter (·.1 != k)) : a ∈ l :=
  (List.mem_filter.mp h).1

theorem nodup_filter {l : Live} (hn : (l.map (·.1)).Nodup) (p : Nat × Option Bytes → Bool) : ((l.filter p).map (·.1)).Nodup :=
  List.Nodup.sublist (List.Sublist.map _ List.filter_sublist) hn

theorem drop_of_bound {l : Live} {n k : Nat} (hb : ∀ j f, (j, f) ∈ l → j < n) (hk : n ≤ k) : l.filter (·.1 != k) = l := by
  rw [List.filter_eq_self]
  intro a ha
  have := hb a.1 a.2 ha
  exact bne_iff_ne.mpr (by omega)

theorem filter_map_fst_ne (l : Live) (p : Nat × Option Bytes → Bool) (k : Nat) :
    ((l.filter (fun a => a.1 != k)).filter p).map (·.1) = ((l.filter p).map (·.1)).filter (· != k) := by
  rw [List.filter_map, List.filter_filter, List.filter_filter]
  congr 2
  funext a
  exact Bool.and_comm _ _

theorem filter_ne_of_not_mem (l : Live) (p : Nat × Option Bytes → Bool) (k : Nat)
    (h : ∀ f, (k, f) ∈ l → p (k, f) = false) :
    (l.filter (fun a => a.1 != k)).filter p = l.filter p := by
  rw [List.filter_filter]
  apply List.filter_congr
  intro a ha
  by_cases hk : a.1 = k
  · have : p a = false := by have := h a.2 (hk ▸ ha); rwa [← hk] at this
    rw [this]; rfl
  · rw [bne_iff_ne.mpr hk, Bool.and_true]

theorem filter_map_push (l : Live) (n : Nat) (f g : Option Bytes) :
    ((l ++ [(n, f)]).filter (·.2 == g)).map (·.1) =
      if g = f then (l.filter (·.2 == g)).map (·.1) ++ [n] else (l.filter (·.2 == g)).map (·.1) := by
  rw [List.filter_append, List.map_append]
  by_cases hg : g = f
  · rw [if_pos hg, List.filter_cons_of_pos (p := (·.2 == g)) (a := (n, f)) (beq_iff_eq.mpr hg.symm)]; rfl
  · rw [if_neg hg, List.filter_cons_of_neg (p := (·.2 == g)) (a := (n, f)) (mt beq_iff_eq.mp (Ne.symm hg))]
    exact List.append_nil _

theorem live_step {ss : SubState} {op : ROp} {a : Nat × Option Bytes} (h : a ∈ (ss.step op).live) :
    a ∈ ss.live ∨ a.1 = ss.count := by
  cases op with
  | sub ev => exact (List.mem_append.mp h).imp_right fun h' => congrArg Prod.fst (List.mem_singleton.mp h')
  | subAll => exact (List.mem_append.mp h).imp_right fun h' => congrArg Prod.fst (List.mem_singleton.mp h')
  | unsub j => exact Or.inl (mem_drop h)
  | event t => exact Or.inl h

theorem count_step (ss : SubState) (op : ROp) : ss.count ≤ (ss.step op).count := by
  cases op with
  | sub ev => exact Nat.le_succ _
  | subAll => exact Nat.le_succ _
  | unsub j => exact Nat.le_refl _
  | event t => exact Nat.le_refl _

theorem not_live_run (ops : List ROp) (ss : SubState) (k : Nat) (hk : k < ss.count) (h : ∀ a ∈ ss.live, a.1 ≠ k) :
    ∀ a ∈ (ops.foldl SubState.step ss).live, a.1 ≠ k := by
  induction ops generalizing ss with
  | nil => exact h
  | cons op ops ih =>
    refine ih _ (Nat.lt_of_lt_of_le hk (count_step ss op)) fun a ha => ?_
    rcases live_step ha with ha | ha
    · exact h a ha
    · rw [ha]; exact Nat.ne_of_gt hk

theorem inv_push {ms : RegState} {ss : SubState} (h : Inv ms ss) (f : Option Bytes) :
    Inv { ms with reg := (addBy ms.reg f).1, removers := ms.removers ++ [(addBy ms.reg f).2] }
        { ss with live := ss.live ++ [(ss.count, f)], count := ss.count + 1 } := by
  have hby : ∀ g, idsOf (addBy ms.reg f).1 g = ((ss.live ++ [(ss.count, f)]).filter (·.2 == g)).map (·.1) := by
    intro g
    rw [idsOf_addBy, h.byFilter, h.next, filter_map_push]
  refine ⟨?_, ?_, ?_, ?_, fun t => hby (some t), hby none, bound_push h.bound f, nodup_push h.bound h.nodup f⟩
  · show (addBy ms.reg f).1.next = ss.count + 1
    rw [addBy_next, h.next]
  · show (ms.removers ++ [_]).length = ss.count + 1
    rw [List.length_append, h.len]; rfl
  · exact forall_getElem?_concat h.ids (by rw [addBy_remover, remOf_id, h.len, h.next])
  · rw [addBy_remover, h.next]
    exact live_push_getElem? remOf h.len h.live f

theorem inv_drop {ms : RegState} {ss : SubState} (h : Inv ms ss) (k : Nat) (rm : Remover) (hr : ms.removers[k]? = some rm) :
    Inv { ms with reg := ms.reg.remove rm } { ss with live := ss.live.filter (·.1 != k) } := by
  obtain ⟨f, hf⟩ := exists_remOf rm
  rw [h.ids k rm hr] at hf
  subst hf
  -- whatever is live under `k` was registered by this very remover
  have hlive : ∀ g, (k, g) ∈ ss.live → g = f := fun g hg =>
    remOf_inj k g f (Option.some.inj ((h.live k g hg).symm.trans hr))
  have hby : ∀ g, idsOf (ms.reg.remove (remOf k f)) g = ((ss.live.filter (·.1 != k)).filter (·.2 == g)).map (·.1) := by
    intro g
    rw [idsOf_remove, h.byFilter]
    by_cases hg : g = f
    · rw [if_pos hg, filter_map_fst_ne]
    · rw [if_neg hg, filter_ne_of_not_mem]
      intro g' hg'
      exact beq_false_of_ne (fun e => hg (e ▸ hlive g' hg'))
  exact ⟨(next_remove _ _).trans h.next, h.len, h.ids, fun k' g hm => h.live k' g (mem_drop hm),
    fun t => hby (some t), hby none, fun k' g hm => h.bound k' g (mem_drop hm), nodup_filter h.nodup _⟩

theorem inv_step (ms : RegState) (ss : SubState) (op : ROp) (h : Inv ms ss) : Inv (ms.step op) (ss.step op) := by
  cases op with
  | sub ev => exact inv_push h (some ev)
  | subAll => exact inv_push h none
  | event typ => exact ⟨h.next, h.len, h.ids, h.live, h.typed, h.all, h.bound, h.nodup⟩
  | unsub k =>
    cases hr : ms.removers[k]? with
    | none =>
      -- no such remover: the k-th subscription does not exist, so nothing is live under k
      have hk : ss.count ≤ k := by rw [← h.len]; exact List.getElem?_eq_none_iff.mp hr
      have e1 : ms.step (.unsub k) = ms := by simp only [RegState.step, hr]
      have e2 : ss.step (.unsub k) = ss := by
        show { ss with live := ss.live.filter (·.1 != k) } = ss
        rw [drop_of_bound h.bound hk]
      rw [e1, e2]; exact h
    | some rm =>
      have e1 : ms.step (.unsub k) = { ms with reg := ms.reg.remove rm } := by simp only [RegState.step, hr]
      rw [e1]
      exact inv_drop h k rm hr

theorem inv_run_from (ops : List ROp) (ms : RegState) (ss : SubState) (h : Inv ms ss) :
    Inv (ops.foldl RegState.step ms) (ops.foldl SubState.step ss) := by
  induction ops generalizing ms ss with
  | nil => exact h
  | cons op ops ih => exact ih _ _ (inv_step ms ss op h)

theorem inv_run (ops : List ROp) : Inv (runScript ops) (specScript ops) :=
  inv_run_from ops {} {} inv_init

/-- two logs agree entry by entry up to permutation -/
inductive LogsPerm : List (List Nat) → List (List Nat) → Prop
  | nil : LogsPerm [] []
  | cons {a b : List Nat} {l m : List (List Nat)} : a.Perm b → LogsPerm l m → LogsPerm (a :: l) (b :: m)

theorem LogsPerm.append {l m l' m' : List (List Nat)} (h : LogsPerm l m) (h' : LogsPerm l' m') :
    LogsPerm (l ++ l') (m ++ m') := by
  induction h with
  | nil => exact h'
  | cons hp _ ih => exact LogsPerm.cons hp ih

theorem matches_perm (l : List (Nat × Option Bytes)) (t : Bytes) :
    ((l.filter (isTyped t)).map (·.1) ++ (l.filter isAll).map (·.1)).Perm ((l.filter (matchesSub t)).map (·.1)) := by
  -- among the matching subscriptions, the typed ones and the rest
  have h1 : l.filter (isTyped t) = (l.filter (matchesSub t)).filter (isTyped t) := by
    rw [List.filter_filter]
    apply List.filter_congr
    intro a _
    obtain ⟨k, f⟩ := a
    cases f <;> simp [isTyped, matchesSub]
  have h2 : l.filter isAll = (l.filter (matchesSub t)).filter (fun a => !isTyped t a) := by
    rw [List.filter_filter]
    apply List.filter_congr
    intro a _
    obtain ⟨k, f⟩ := a
    cases f <;> simp [isTyped, isAll, matchesSub]
  rw [h1, h2, ← List.map_append]
  exact (List.filter_append_perm _ _).map _

theorem Inv.dispatch_perm {ms : RegState} {ss : SubState} (h : Inv ms ss) (t : Bytes) :
    (ms.reg.dispatch t).Perm ((ss.live.filter (matchesSub t)).map (·.1)) := by
  rw [dispatch_eq, h.typed, h.all]
  exact matches_perm _ _

theorem step_log (ms : RegState) (op : ROp) :
    (ms.step op).log = ms.log ++
      match op with
      | .sub _ => []
      | .subAll => []
      | .unsub _ => []
      | .event t => [ms.reg.dispatch t] := by
  cases op with
  | sub ev => exact (List.append_nil _).symm
  | subAll => exact (List.append_nil _).symm
  | unsub k =>
    simp only [RegState.step, List.append_nil]
    split <;> rfl
  | event t => rfl

theorem log_rel_from (ops : List ROp) (ms : RegState) (ss : SubState) (h : Inv ms ss)
    (hl : LogsPerm ms.log ss.log) :
    LogsPerm (ops.foldl RegState.step ms).log (ops.foldl SubState.step ss).log := by
  induction ops generalizing ms ss with
  | nil => exact hl
  | cons op ops ih =>
    apply ih _ _ (inv_step ms ss op h)
    rw [step_log]
    cases op with
    | event typ => exact LogsPerm.append hl (LogsPerm.cons (h.dispatch_perm typ) LogsPerm.nil)
    | sub ev => rw [List.append_nil]; exact hl
    | subAll => rw [List.append_nil]; exact hl
    | unsub k => rw [List.append_nil]; exact hl

theorem foldl_step_append (ops : List ROp) (ms : RegState) :
    ∃ rest, (ops.foldl RegState.step ms).log = ms.log ++ rest := by
  induction ops generalizing ms with
  | nil => exact ⟨[], (List.append_nil _).symm⟩
  | cons op ops ih =>
    obtain ⟨rest, hr⟩ := ih (ms.step op)
    exact ⟨_, by rw [List.foldl_cons, hr, step_log, List.append_assoc]⟩

end GoSSE.Proofs.ClientRegistry
