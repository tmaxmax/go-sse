import GoSSE.Proofs.GenEquivDispatch
import GoSSE.Proofs.ClientRegistry
/-!
# Scripts over the translated registry functions refine the specification of C13

`GState.step` runs one operation of a script (`Spec.Client.ROp`) through what the translated functions of
client_connection.go compute (`afterSub`, `afterSubAll`, `afterUnsub`, `afterUnsubAll`, `dispatch_eq`'s result — each
proved equal to the translated text in `GenEquivDispatch`; `stepM_eq` below puts them together). The callback of the
`k`-th subscribe operation is the number `k`; the removers are the environments the translated `addSubscriber…` hand back.
The visiting orders of `dispatch`'s two `range` statements come from an oracle `ord` of which only what Go guarantees is
assumed (`Covers`: every key of the map ranged over, once).

`run_refines`: for every script and every such oracle the registry a reader sees is exactly the specification's list of
live subscriptions, and every dispatched event went to a permutation of the live subscriptions matching its type — each
once, nobody else.
-/
namespace GoSSE.GenEquiv
open GoSSE GoSSE.GoRT GoSSE.MapL GoSSE.Spec.Client
open GoSSE.Proofs.ClientRegistry (forall_getElem?_concat live_push_getElem? bound_push nodup_push mem_drop nodup_filter drop_of_bound matches_perm)

abbrev LogsPerm := GoSSE.Proofs.ClientRegistry.LogsPerm

/-- visiting orders of the two ranges of `dispatch` -/
abbrev Orders := Gen.Connection → Bytes → List Int × List Int

/-- what Go guarantees of a range over a map: every key, once -/
def Covers (ord : Orders) : Prop :=
  ∀ c ty, (ord c ty).1.Nodup ∧ (∀ k, k ∈ (ord c ty).1 ↔ (mapGet (typed c ty) k).isSome = true) ∧
          (ord c ty).2.Nodup ∧ (∀ k, k ∈ (ord c ty).2 ↔ (mapGet c.callbacksAll k).isSome = true)

structure GState where
  conn : Gen.Connection
  removers : List (Option Bytes × Int)     -- what the k-th subscribe operation handed back: (type or all, id)
  log : List (List Nat)                     -- per dispatched event: the callbacks called, in call order

def evOf (ty : Bytes) : Gen.Event := ⟨[], ty, []⟩

def callsAt (ord : Orders) (c : Gen.Connection) (ty : Bytes) : List (Nat × Gen.Event) :=
  callsOf (typed c ty) (ord c ty).1 (evOf ty) ++ callsOf c.callbacksAll (ord c ty).2 (evOf ty)

def GState.step (ord : Orders) (s : GState) : ROp → GState
  | .sub ev => { s with conn := afterSub s.conn ev s.removers.length, removers := s.removers ++ [(some ev, s.conn.callbackID)] }
  | .subAll => { s with conn := afterSubAll s.conn s.removers.length, removers := s.removers ++ [(none, s.conn.callbackID)] }
  | .unsub k =>
    match s.removers[k]? with
    | some (some ev, id) => { s with conn := afterUnsub s.conn ev id }
    | some (none, id) => { s with conn := afterUnsubAll s.conn id }
    | none => s
  | .event ty => { s with conn := logged s.conn (callsAt ord s.conn ty), log := s.log ++ [(callsAt ord s.conn ty).map (·.1)] }

/-- the same step through the translated text -/
def GState.stepM (fuel : Nat) (ord : Orders) (s : GState) : ROp → GoM GState
  | .sub ev => do
    let r ← Gen.Connection_addSubscriber fuel s.conn ev s.removers.length
    pure { s with conn := r.2, removers := s.removers ++ [(some r.1.1, r.1.2)] }
  | .subAll => do
    let r ← Gen.Connection_addSubscriberToAll fuel s.conn s.removers.length
    pure { s with conn := r.2, removers := s.removers ++ [(none, r.1)] }
  | .unsub k =>
    match s.removers[k]? with
    | some (some ev, id) => do
      let c ← Gen.Connection_removeFromType fuel s.conn ev id
      pure { s with conn := c }
    | some (none, id) => do
      let c ← Gen.Connection_removeFromAll fuel s.conn id
      pure { s with conn := c }
    | none => pure s
  | .event ty => do
    let c ← Gen.Connection_dispatch fuel s.conn (evOf ty) (ord s.conn ty).1 (ord s.conn ty).2
    pure { s with conn := c, log := s.log ++ [(c.cblog.drop s.conn.cblog.length).map (·.1)] }

theorem stepM_eq (fuel : Nat) (ord : Orders) (s : GState) (op : ROp)
    (hf : ∀ ty, op = .event ty → (ord s.conn ty).1.length < fuel ∧ (ord s.conn ty).2.length < fuel) :
    GState.stepM fuel ord s op = .ok (GState.step ord s op) := by
  cases op with
  | sub ev => simp only [GState.stepM, GState.step, addSubscriber_eq, afterSub, bind, Except.bind, pure, Except.pure]
  | subAll => simp only [GState.stepM, GState.step, addSubscriberToAll_eq, afterSubAll, bind, Except.bind, pure, Except.pure]
  | unsub k =>
    simp only [GState.stepM, GState.step]
    cases h : s.removers[k]? with
    | none => rfl
    | some r =>
      obtain ⟨f, id⟩ := r
      cases f with
      | none => simp only [removeFromAll_eq, afterUnsubAll, bind, Except.bind, pure, Except.pure]
      | some ev => simp only [removeFromType_eq, afterUnsub, bind, Except.bind, pure, Except.pure]
  | event ty =>
    have h := dispatch_eq fuel s.conn (evOf ty) (ord s.conn ty).1 (ord s.conn ty).2 (hf ty rfl).1 (hf ty rfl).2
    have ht : (evOf ty).Type' = ty := rfl
    rw [ht] at h
    simp only [GState.stepM, GState.step, h, bind, Except.bind, pure, Except.pure, callsAt]
    congr 2
    simp only [logged, List.drop_left', List.map_append]

structure RInv (s : GState) (sp : SubState) : Prop where
  cnt : s.conn.callbackID = (sp.count : Int)
  len : s.removers.length = sp.count
  ids : ∀ (j : Nat) f id, s.removers[j]? = some (f, id) → id = (j : Int)
  liveRem : ∀ (j : Nat) f, (j, f) ∈ sp.live → s.removers[j]? = some (f, (j : Int))
  typedSlots : ∀ ty (k : Int) (cb : Nat), mapGet (typed s.conn ty) k = some cb ↔ ∃ j : Nat, (j, some ty) ∈ sp.live ∧ k = (j : Int) ∧ cb = j
  allSlots : ∀ (k : Int) (cb : Nat), mapGet s.conn.callbacksAll k = some cb ↔ ∃ j : Nat, (j, none) ∈ sp.live ∧ k = (j : Int) ∧ cb = j
  nodup : (sp.live.map (·.1)).Nodup
  bound : ∀ (j : Nat) f, (j, f) ∈ sp.live → j < sp.count

def GState.init : GState := ⟨⟨(), none, [], [], [], (), (), (), 0, false, []⟩, [], []⟩

theorem rinv_init : RInv GState.init {} := by
  refine ⟨rfl, rfl, ?_, ?_, ?_, ?_, ?_, ?_⟩
  · intro j f id h; simp [GState.init] at h
  · intro j f h; simp at h
  · intro ty k cb
    simp [GState.init, typed, inner, get_nil]
  · intro k cb
    simp [GState.init, get_nil]
  · simp
  · intro j f h; simp at h

/-- the two slot fields of `RInv` as one statement -/
theorem RInv.slots {s : GState} {sp : SubState} (h : RInv s sp) (f : Option Bytes) (k : Int) (cb : Nat) :
    slot s.conn f k = some cb ↔ ∃ j : Nat, (j, f) ∈ sp.live ∧ k = (j : Int) ∧ cb = j := by
  cases f with
  | none => exact h.allSlots k cb
  | some ty => exact h.typedSlots ty k cb

theorem mem_filter_ne (l : List (Nat × Option Bytes)) (k j : Nat) (f : Option Bytes) :
    (j, f) ∈ l.filter (fun x => x.1 != k) ↔ (j, f) ∈ l ∧ j ≠ k := by
  rw [List.mem_filter, bne_iff_ne]

theorem rinv_push {s : GState} {sp : SubState} (h : RInv s sp) (f : Option Bytes) :
    RInv { s with conn := afterAdd s.conn f s.removers.length, removers := s.removers ++ [(f, s.conn.callbackID)] }
         { sp with live := sp.live ++ [(sp.count, f)], count := sp.count + 1 } := by
  have hslots : ∀ g (k : Int) (cb : Nat), slot (afterAdd s.conn f s.removers.length) g k = some cb ↔
      ∃ j : Nat, (j, g) ∈ sp.live ++ [(sp.count, f)] ∧ k = (j : Int) ∧ cb = j := by
    intro g k cb
    rw [slot_afterAdd]
    by_cases he : g = f ∧ k = s.conn.callbackID
    · rw [if_pos he]
      obtain ⟨rfl, rfl⟩ := he
      constructor
      · intro hc
        exact ⟨sp.count, List.mem_append_right _ (List.mem_singleton.mpr rfl), h.cnt,
          by rw [← Option.some.inj hc, h.len]⟩
      · rintro ⟨j, _, hk, hcb⟩
        have : j = sp.count := by have := h.cnt; omega
        rw [hcb, this, h.len]
    · rw [if_neg he, h.slots]
      constructor
      · rintro ⟨j, hm, hk, hcb⟩
        exact ⟨j, List.mem_append_left _ hm, hk, hcb⟩
      · rintro ⟨j, hm, hk, hcb⟩
        rcases List.mem_append.mp hm with hl | hr
        · exact ⟨j, hl, hk, hcb⟩
        · cases List.mem_singleton.mp hr
          exact absurd ⟨rfl, hk.trans h.cnt.symm⟩ he
  refine ⟨?_, ?_, ?_, ?_, fun ty => hslots (some ty), hslots none, nodup_push h.bound h.nodup f, bound_push h.bound f⟩
  · show (afterAdd s.conn f _).callbackID = ((sp.count + 1 : Nat) : Int)
    rw [afterAdd_callbackID, h.cnt]; rfl
  · show (s.removers ++ [_]).length = sp.count + 1
    rw [List.length_append, h.len]; rfl
  · exact fun j g id => forall_getElem?_concat (P := fun j r => r.2 = (j : Int)) (fun j r => h.ids j r.1 r.2)
      (h.cnt.trans (congrArg Nat.cast h.len.symm)) j (g, id)
  · rw [h.cnt]
    exact live_push_getElem? (fun k f => (f, (k : Int))) h.len h.liveRem f

theorem rinv_drop {s : GState} {sp : SubState} (h : RInv s sp) (k : Nat) (f : Option Bytes) (id : Int)
    (hr : s.removers[k]? = some (f, id)) :
    RInv { s with conn := afterDel s.conn f id } { sp with live := sp.live.filter (·.1 != k) } := by
  have hid : id = (k : Int) := h.ids k f id hr
  subst hid
  -- the k-th subscription, if live, has filter f
  have hfilt : ∀ g, (k, g) ∈ sp.live → g = f := fun g hm =>
    (Prod.mk.inj (Option.some.inj ((h.liveRem k g hm).symm.trans hr))).1
  have hslots : ∀ g (k' : Int) (cb : Nat), slot (afterDel s.conn f k) g k' = some cb ↔
      ∃ j : Nat, (j, g) ∈ sp.live.filter (·.1 != k) ∧ k' = (j : Int) ∧ cb = j := by
    intro g k' cb
    rw [slot_afterDel]
    by_cases he : g = f ∧ k' = (k : Int)
    · rw [if_pos he]
      constructor
      · intro hc; cases hc
      · rintro ⟨j, hm, hk, _⟩
        exact absurd (by have := he.2; omega : j = k) ((mem_filter_ne _ _ _ _).mp hm).2
    · rw [if_neg he, h.slots]
      constructor
      · rintro ⟨j, hm, hk, hcb⟩
        refine ⟨j, (mem_filter_ne _ _ _ _).mpr ⟨hm, ?_⟩, hk, hcb⟩
        intro hjk; subst hjk
        exact he ⟨hfilt g hm, hk⟩
      · rintro ⟨j, hm, hk, hcb⟩
        exact ⟨j, mem_drop hm, hk, hcb⟩
  exact ⟨(afterDel_callbackID _ _ _).trans h.cnt, h.len, h.ids, fun j g hm => h.liveRem j g (mem_drop hm),
    fun ty => hslots (some ty), hslots none, nodup_filter h.nodup _, fun j g hm => h.bound j g (mem_drop hm)⟩

theorem rinv_step (s : GState) (sp : SubState) (ord : Orders) (op : ROp) (h : RInv s sp) :
    RInv (s.step ord op) (sp.step op) := by
  cases op with
  | sub ev => exact rinv_push h (some ev)
  | subAll => exact rinv_push h none
  | event ty => exact ⟨h.cnt, h.len, h.ids, h.liveRem, h.typedSlots, h.allSlots, h.nodup, h.bound⟩
  | unsub k =>
    cases hr : s.removers[k]? with
    | none =>
      -- no such remover: the k-th subscription does not exist, so nothing is live under k
      have hs : s.step ord (.unsub k) = s := by simp only [GState.step, hr]
      have hk : sp.count ≤ k := by rw [← h.len]; exact List.getElem?_eq_none_iff.mp hr
      have hsp : sp.step (.unsub k) = sp := by
        show { sp with live := sp.live.filter (fun x => x.1 != k) } = sp
        rw [drop_of_bound h.bound hk]
      rw [hs, hsp]; exact h
    | some r =>
      obtain ⟨f, id⟩ := r
      have hs : s.step ord (.unsub k) = { s with conn := afterDel s.conn f id } := by
        cases f <;> simp only [GState.step, hr, afterDel]
      rw [hs]; exact rinv_drop h k f id hr

theorem callsOf_fst (m : List (Int × Nat)) (o : List Int) (ev : Gen.Event) :
    (callsOf m o ev).map (·.1) = o.filterMap (fun k => mapGet m k) := by
  simp [callsOf, List.map_map, Function.comp_def]

theorem nodup_filterMap_of_inj {α β : Type} (f : α → Option β) (l : List α) (hl : l.Nodup)
    (hinj : ∀ a a' b, f a = some b → f a' = some b → a = a') : (l.filterMap f).Nodup := by
  induction l with
  | nil => simp
  | cons a l ih =>
    rw [List.nodup_cons] at hl
    rw [List.filterMap_cons]
    cases hfa : f a with
    | none => exact ih hl.2
    | some b =>
      simp only
      rw [List.nodup_cons]
      refine ⟨?_, ih hl.2⟩
      intro hb
      obtain ⟨a', ha', hfa'⟩ := List.mem_filterMap.mp hb
      have := hinj a a' b hfa hfa'
      subst this
      exact hl.1 ha'

theorem slot_perm {s : GState} {sp : SubState} (h : RInv s sp) (g : Option Bytes) (o : List Int) (hn : o.Nodup)
    (hcov : ∀ k, k ∈ o ↔ (slot s.conn g k).isSome = true) :
    (o.filterMap (slot s.conn g)).Perm ((sp.live.filter (·.2 == g)).map (·.1)) := by
  rw [List.perm_ext_iff_of_nodup]
  · intro cb
    rw [List.mem_filterMap, List.mem_map]
    constructor
    · rintro ⟨k, _, hg⟩
      obtain ⟨j, hm, _, hcb⟩ := (h.slots g k cb).mp hg
      exact ⟨(j, g), List.mem_filter.mpr ⟨hm, beq_self_eq_true g⟩, hcb.symm⟩
    · rintro ⟨⟨j, g'⟩, hm, rfl⟩
      obtain ⟨hml, hg'⟩ := List.mem_filter.mp hm
      cases eq_of_beq hg'
      have hg : slot s.conn g' (j : Int) = some j := (h.slots g' j j).mpr ⟨j, hml, rfl, rfl⟩
      exact ⟨(j : Int), (hcov _).mpr (by rw [hg]; rfl), hg⟩
  · apply nodup_filterMap_of_inj _ _ hn
    intro a a' b ha ha'
    obtain ⟨j, _, hk, hcb⟩ := (h.slots g a b).mp ha
    obtain ⟨j', _, hk', hcb'⟩ := (h.slots g a' b).mp ha'
    omega
  · exact nodup_filter h.nodup _

theorem event_perm (s : GState) (sp : SubState) (ord : Orders) (hc : Covers ord) (ty : Bytes) (h : RInv s sp) :
    ((callsAt ord s.conn ty).map (·.1)).Perm ((sp.live.filter (matchesSub ty)).map (·.1)) := by
  obtain ⟨hn1, hm1, hn2, hm2⟩ := hc s.conn ty
  have hL : (callsAt ord s.conn ty).map (·.1) =
      (ord s.conn ty).1.filterMap (slot s.conn (some ty)) ++ (ord s.conn ty).2.filterMap (slot s.conn none) := by
    simp only [callsAt, List.map_append, callsOf_fst]; rfl
  rw [hL]
  exact ((slot_perm h (some ty) _ hn1 hm1).append (slot_perm h none _ hn2 hm2)).trans (matches_perm sp.live ty)

theorem run_from (ord : Orders) (hc : Covers ord) (ops : List ROp) (s : GState) (sp : SubState) (h : RInv s sp)
    (hl : LogsPerm s.log sp.log) :
    RInv (ops.foldl (GState.step ord) s) (ops.foldl SubState.step sp) ∧
    LogsPerm (ops.foldl (GState.step ord) s).log (ops.foldl SubState.step sp).log := by
  induction ops generalizing s sp with
  | nil => exact ⟨h, hl⟩
  | cons op ops ih =>
    apply ih _ _ (rinv_step s sp ord op h)
    cases op with
    | event ty =>
      show LogsPerm (s.log ++ [_]) (sp.log ++ [_])
      exact GoSSE.Proofs.ClientRegistry.LogsPerm.append hl
        (GoSSE.Proofs.ClientRegistry.LogsPerm.cons (event_perm s sp ord hc ty h) GoSSE.Proofs.ClientRegistry.LogsPerm.nil)
    | sub ev => exact hl
    | subAll => exact hl
    | unsub k =>
      have : (s.step ord (.unsub k)).log = s.log := by
        simp only [GState.step]
        split <;> rfl
      rw [this]; exact hl

theorem run_refines (ord : Orders) (hc : Covers ord) (ops : List ROp) :
    RInv (ops.foldl (GState.step ord) GState.init) (specScript ops) ∧
    LogsPerm (ops.foldl (GState.step ord) GState.init).log (specScript ops).log :=
  run_from ord hc ops GState.init {} rinv_init GoSSE.Proofs.ClientRegistry.LogsPerm.nil

/-- fuel enough for the loops of the step at hand (only `dispatch` has loops: one round per visited key, and one to stop) -/
def fuelFor (ord : Orders) (s : GState) : ROp → Nat
  | .event ty => (ord s.conn ty).1.length + (ord s.conn ty).2.length + 1
  | _ => 0

/-- the whole script through the translated text -/
def runM (ord : Orders) : List ROp → GState → GoM GState
  | [], s => pure s
  | op :: ops, s => do
    let s' ← GState.stepM (fuelFor ord s op) ord s op
    runM ord ops s'

theorem runM_eq (ord : Orders) (ops : List ROp) (s : GState) : runM ord ops s = .ok (ops.foldl (GState.step ord) s) := by
  induction ops generalizing s with
  | nil => rfl
  | cons op ops ih =>
    have hf : ∀ ty, op = .event ty → (ord s.conn ty).1.length < fuelFor ord s op ∧ (ord s.conn ty).2.length < fuelFor ord s op := by
      intro ty he; subst he; simp only [fuelFor]; omega
    simp only [runM, stepM_eq _ ord s op hf, bind, Except.bind, List.foldl_cons]
    exact ih _

theorem nodup_eraseDups : ∀ (n : Nat) (l : List Int), l.length ≤ n → l.eraseDups.Nodup
  | 0, l, h => by
    have : l = [] := List.length_eq_zero_iff.mp (by omega)
    subst this; simp
  | n + 1, [], _ => by simp
  | n + 1, a :: as, h => by
    rw [List.eraseDups_cons, List.nodup_cons]
    refine ⟨?_, nodup_eraseDups n _ ?_⟩
    · intro hm
      rw [List.mem_eraseDups, List.mem_filter] at hm
      simp at hm
    · have h1 : (as.filter fun b => b != a).length ≤ as.length := List.length_filter_le _ as
      have h2 : as.length ≤ n := by simpa using h
      exact Nat.le_trans h1 h2

theorem mem_keys_iff (m : List (Int × Nat)) (k : Int) : k ∈ m.map (·.1) ↔ (mapGet m k).isSome = true := by
  induction m with
  | nil => simp [get_nil]
  | cons e m ih =>
    obtain ⟨a, b⟩ := e
    rw [List.map_cons, List.mem_cons, get_cons, ih]
    by_cases hak : a = k
    · simp [hak]
    · have : ¬ k = a := fun e => hak e.symm
      simp [hak, this]

def canonOrders : Orders := fun c ty => (((typed c ty).map (·.1)).eraseDups, (c.callbacksAll.map (·.1)).eraseDups)

theorem covers_canon : Covers canonOrders := by
  intro c ty
  refine ⟨nodup_eraseDups _ _ (Nat.le_refl _), ?_, nodup_eraseDups _ _ (Nat.le_refl _), ?_⟩
  · intro k; show k ∈ ((typed c ty).map (·.1)).eraseDups ↔ _
    rw [List.mem_eraseDups, mem_keys_iff]
  · intro k; show k ∈ (c.callbacksAll.map (·.1)).eraseDups ↔ _
    rw [List.mem_eraseDups, mem_keys_iff]

end GoSSE.GenEquiv
