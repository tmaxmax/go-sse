import GoSSE.Proofs.JoeMore
/-! The progress invariant of Joe's transition system (C07). -/
namespace GoSSE.Proofs.Joe
open GoSSE.Model.Joe

structure PInv (s : St) : Prop where
  exited : s.joe = .exited → s.doneClosed = true ∧ s.closedClosed = true ∧ s.subscribers = []
  closedExited : s.closedClosed = true → s.joe = .exited
  waitingOK : ∀ i, ((s.subs i).pc = .waiting ∨ (s.subs i).pc = .cancelled) →
    i ∈ s.subscribers ∨ (s.subs i).ch.buf ≠ none ∨ (s.subs i).ch.closed = true
  shutWaiting : ∀ k, (s.shuts k).pc = .waiting → s.doneClosed = true

theorem pinv_init {s : St} (h : IsInit s) : PInv s := by
  obtain ⟨hj, _, _, _, hcc, _, hsub, _, hsh⟩ := h
  refine ⟨by simp [hj], by simp [hcc], ?_, ?_⟩
  · intro i hp; simp [(hsub i).1] at hp
  · intro k hp; simp [(hsh k).1] at hp

theorem waitingOK_upd {s : St} (h : PInv s) (i : SubId) (st : SubSt) (subs' : List SubId)
    (hst : (st.pc = .waiting ∨ st.pc = .cancelled) → i ∈ subs' ∨ st.ch.buf ≠ none ∨ st.ch.closed = true)
    (hkeep : ∀ k ∈ s.subscribers, k ≠ i → k ∈ subs') (k : SubId)
    (hk : (upd s.subs i st k).pc = .waiting ∨ (upd s.subs i st k).pc = .cancelled) :
    k ∈ subs' ∨ (upd s.subs i st k).ch.buf ≠ none ∨ (upd s.subs i st k).ch.closed = true := by
  by_cases hki : k = i
  · subst hki; rw [upd_same] at hk ⊢; exact hst hk
  · rw [upd_other _ _ _ _ hki] at hk ⊢
    exact (h.waitingOK k hk).imp_left fun hm => hkeep k hm hki

theorem pinv_setSub {s : St} (h : PInv s) (i : SubId) (st : SubSt)
    (hst : (st.pc = .waiting ∨ st.pc = .cancelled) → i ∈ s.subscribers ∨ st.ch.buf ≠ none ∨ st.ch.closed = true) :
    PInv (setSub s i st) :=
  ⟨h.exited, h.closedExited, waitingOK_upd h i st _ hst fun _ hm _ => hm, h.shutWaiting⟩

theorem pinv_setShut {s : St} (h : PInv s) (k : ShutId) (v : ShutSt) (hv : v.pc = .waiting → s.doneClosed = true) :
    PInv (setShut s k v) := by
  refine ⟨h.exited, h.closedExited, h.waitingOK, fun j hj => ?_⟩
  by_cases hjk : j = k
  · subst hjk; simp only [setShut, upd_same] at hj; exact hv hj
  · simp only [setShut, upd_other _ _ _ _ hjk] at hj; exact h.shutWaiting j hj

/-- The loop is inside its body before and after: the clauses about the exit hold vacuously. -/
theorem pinv_busy {s s' : St} (h : PInv s) (hne : s.joe ≠ .exited) (hne' : s'.joe ≠ .exited)
    (hcc : s'.closedClosed = s.closedClosed) (hd : s'.doneClosed = s.doneClosed) (hsh : s'.shuts = s.shuts)
    (hw : ∀ i, ((s'.subs i).pc = .waiting ∨ (s'.subs i).pc = .cancelled) →
      i ∈ s'.subscribers ∨ (s'.subs i).ch.buf ≠ none ∨ (s'.subs i).ch.closed = true) : PInv s' :=
  ⟨fun hj => absurd hj hne', fun hc => absurd (h.closedExited (hcc ▸ hc)) hne, hw,
    fun k hk => by rw [hd]; rw [hsh] at hk; exact h.shutWaiting k hk⟩

theorem step_pinv {c : Cfg} {s s' : St} (hi : Inv s) (h : PInv s) (l : Label) (hs : step c s l = some s') : PInv s' := by
  have idle : s.joe = .idle → s.joe ≠ .exited := fun hj => by rw [hj]; nofun
  have fanout : ∀ {p rest}, s.joe = .fanout p rest → s.joe ≠ .exited := fun hj => by rw [hj]; nofun
  cases step_trans hi hs with
  | subCall i hpc => exact pinv_setSub h i _ nofun
  | subAccept i rc o hpc hj =>
    exact pinv_busy h (idle hj) (idle hj) rfl rfl rfl
      (waitingOK_upd h i _ _ (fun _ => Or.inl List.mem_cons_self) fun k hm _ => List.mem_cons_of_mem _ hm)
  | subAcceptErr i rc hpc hj => exact pinv_setSub h i _ fun _ => Or.inr (Or.inr rfl)
  | subClosedEarly i hpc => exact pinv_setSub h i _ nofun
  | subSeeCancel i hpc => exact pinv_setSub h i _ fun _ => h.waitingOK i (Or.inl hpc)
  | subRecvErr i e hpc hb => exact pinv_setSub h i _ nofun
  | subRecvClosed i hpc hb hcl => exact pinv_setSub h i _ nofun
  | unsubAcceptMem i hpc hj hm =>
    exact pinv_busy h (idle hj) (idle hj) rfl rfl rfl
      (waitingOK_upd h i _ _ nofun fun k hk hki => (List.mem_erase_of_ne hki).mpr hk)
  | unsubAcceptGone i hpc hj hm => exact pinv_setSub h i _ nofun
  | cancel i => exact pinv_setSub h i _ (h.waitingOK i)
  | pubAccept p o hpc hj => exact pinv_busy h (idle hj) nofun rfl rfl rfl h.waitingOK
  | fanStepOk i a b p rest hj hm hab his =>
    exact pinv_busy h (fanout hj) nofun rfl rfl rfl (waitingOK_upd h i _ _ (fun _ => Or.inl his) fun _ hk _ => hk)
  | fanStepFail i a b p rest hj hm hab his =>
    exact pinv_busy h (fanout hj) nofun rfl rfl rfl (waitingOK_upd h i _ _ (fun _ => Or.inl his) fun _ hk _ => hk)
  | fanRemove p i rest hj hm =>
    exact pinv_busy h (by rw [hj]; nofun) nofun rfl rfl rfl
      (waitingOK_upd h i _ _ (fun _ => Or.inr (Or.inr rfl)) fun k hk hki => (List.mem_erase_of_ne hki).mpr hk)
  | fanDone p hj => exact pinv_busy h (fanout hj) nofun rfl rfl rfl h.waitingOK
  | loopExit hj hd =>
    refine ⟨fun _ => ⟨hd, rfl, rfl⟩, fun _ => rfl, fun k hk => ?_, fun _ _ => hd⟩
    show _ ∨ (if k ∈ s.subscribers then closedSub (s.subs k) s.log.length else s.subs k).ch.buf ≠ none ∨
      (if k ∈ s.subscribers then closedSub (s.subs k) s.log.length else s.subs k).ch.closed = true
    by_cases hm : k ∈ s.subscribers
    · rw [if_pos hm]; exact Or.inr (Or.inr rfl)
    · have hk' : (s.subs k).pc = .waiting ∨ (s.subs k).pc = .cancelled := by
        simpa only [if_neg hm] using hk
      rw [if_neg hm]; exact Or.inr ((h.waitingOK k hk').resolve_left hm)
  | shutCall k => exact pinv_setShut h k _ nofun
  | shutClose k hpc hd =>
    exact ⟨fun hj => Bool.noConfusion ((h.exited hj).1.symm.trans hd), h.closedExited, h.waitingOK, fun _ _ => rfl⟩
  | shutRecovered k => exact pinv_setShut h k _ nofun
  | shutSeeClosed k => exact pinv_setShut h k _ nofun
  | shutCtx k => exact pinv_setShut h k _ nofun
  | shutCancel k => exact pinv_setShut h k _ (h.shutWaiting k)
  | _ => exact ⟨h.exited, h.closedExited, h.waitingOK, h.shutWaiting⟩

theorem reachable_pinv {c : Cfg} {s : St} (h : Reachable c s) : PInv s := by
  induction h with
  | init hi => exact pinv_init hi
  | step hr hs ih => exact step_pinv (reachable_all hr).1 ih _ hs

end GoSSE.Proofs.Joe
