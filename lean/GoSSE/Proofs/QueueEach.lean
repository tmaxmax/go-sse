import GoSSE.Proofs.Queue
/-!
`each` as a plain traversal of the live slots, the `Replay` callback as `Spec.serve`, and
`findIDInQueue` with manual IDs against `Spec.afterManual`.
-/
namespace GoSSE.Proofs
open GoSSE GoSSE.Spec GoSSE.Model

/-- run a callback over a list of (index, slot) pairs until it asks to stop -/
def runL {σ : Type} (f : σ → Nat → Slot → QRes (σ × Bool)) : List (Nat × Slot) → σ → QRes (σ × Bool)
  | [], s => .ok (s, true)
  | (j, x) :: t, s =>
    match f s j x with
    | .panic => .panic
    | .ok (s', cont) => if cont then runL f t s' else .ok (s', false)

theorem runL_append {σ : Type} (f : σ → Nat → Slot → QRes (σ × Bool)) (a b : List (Nat × Slot)) (s : σ) :
    runL f (a ++ b) s =
      match runL f a s with
      | .panic => .panic
      | .ok (s1, cont) => if cont then runL f b s1 else .ok (s1, false) := by
  induction a generalizing s with
  | nil => simp [runL]
  | cons p t ih =>
    obtain ⟨j, x⟩ := p
    simp only [List.cons_append, runL]
    cases hf : f s j x with
    | panic => rfl
    | ok r =>
      obtain ⟨s', c⟩ := r
      cases c with
      | true => simp [ih]
      | false => simp

def pairAt (q : Queue) (j : Nat) : Nat × Slot := (j, slotAt q j)

theorem eachLoop_eq {σ : Type} (q : Queue) (f : σ → Nat → Slot → QRes (σ × Bool)) (n i : Nat) (s : σ)
    (h : n = 0 ∨ i + n ≤ q.buf.length) :
    Queue.eachLoop q.buf f n i s = runL f ((List.range' i n).map (pairAt q)) s := by
  induction n generalizing i s with
  | zero => simp [Queue.eachLoop, runL]
  | succ n ih =>
    have ih' := fun s' => ih (i + 1) s' (by omega)
    simp only [Queue.eachLoop, List.range', List.map_cons, runL, pairAt, slotAt_some (show i < q.buf.length by omega), ih']
    rfl  -- the two sides are the same `match` on `f s i _`, compiled once for `eachLoop` and once for `runL`

/-- the slots `each(startAt)` visits, in order -/
def visit (q : Queue) (s : Nat) : List (Nat × Slot) :=
  if s < q.tail then (List.range' s (q.tail - s)).map (pairAt q)
  else (List.range' s (q.buf.length - s)).map (pairAt q) ++ (List.range' 0 q.tail).map (pairAt q)

theorem each_eq (q : Queue) (ht : q.tail ≤ q.buf.length) (f : σ → Nat → Slot → QRes (σ × Bool)) (s : Nat) (st : σ) :
    q.each s f st = (match runL f (visit q s) st with | .panic => .panic | .ok r => .ok r.1) := by
  unfold Queue.each visit
  split
  · rw [eachLoop_eq q f _ _ _ (by omega)]
    cases runL f (List.map (pairAt q) (List.range' s (q.tail - s))) st <;> rfl
  · have e2 : ∀ s1, Queue.eachLoop q.buf f q.tail 0 s1 = runL f ((List.range' 0 q.tail).map (pairAt q)) s1 :=
      fun s1 => eachLoop_eq q f _ _ _ (by omega)
    rw [eachLoop_eq q f _ _ _ (by omega), runL_append]
    simp only [e2]
    cases runL f (List.map (pairAt q) (List.range' s (q.buf.length - s))) st with
    | panic => rfl
    | ok r =>
      obtain ⟨s1, c⟩ := r
      cases c
      · simp
      · simp only [Bool.not_true, Bool.false_eq_true, if_false, if_true]
        cases runL f (List.map (pairAt q) (List.range' 0 q.tail)) s1 <;> rfl

/-- `c` ring positions from the `k`-th on, as the two loops of `each` run through them: `a` slots, to the end of
the array at most, then `b` slots from 0 -/
theorem range'_idx {q : Queue} {k c a b : Nat} (hd : q.head < q.buf.length) (hc : k + c ≤ q.buf.length)
    (hab : a + b = c) (ha : idx q k + a ≤ q.buf.length) (hb : b = 0 ∨ idx q k + a = q.buf.length) :
    (List.range' (idx q k) a).map (pairAt q) ++ (List.range' 0 b).map (pairAt q) =
      (List.range' k c).map fun j => pairAt q (idx q j) := by
  rw [← hab, ← List.range'_append_1, List.map_append]
  congr 1
  · refine map_range'_congr fun t ht => congrArg (pairAt q) ?_
    rw [idx_add hd (by omega), wrap_of_lt (by omega)]
  · refine map_range'_congr fun t ht => congrArg (pairAt q) ?_
    rw [Nat.add_assoc, idx_add hd (by omega), wrap_of_ge (by omega)]; omega

theorem visit_idx {q : Queue} (h : WF q) (k : Nat) (hk : k < q.count) :
    visit q (idx q k) = (List.range' k (q.count - k)).map fun j => pairAt q (idx q j) := by
  have hcnt := h.cnt
  have hd := h.head_lt (by omega)
  have htl : q.tail = wrap q.buf.length (idx q k + (q.count - k)) := by
    rw [← idx_add hd (by omega), Nat.add_sub_cancel' (Nat.le_of_lt hk), h.idx_count]
  have := wrap_spec q.buf.length (idx q k + (q.count - k)); have := idx_lt hd (k := k) (by omega)
  unfold visit
  split
  · rw [← range'_idx hd (by omega) (a := q.tail - idx q k) (b := 0) (by omega) (by omega) (.inl rfl)]
    exact (List.append_nil _).symm
  · exact range'_idx hd (by omega) (by omega) (by omega) (.inr (by omega))

theorem serve_ok (sub : Sub) (sends : List Entry) (h : ∀ k, sub.failAt = some k → sends.length ≤ k) :
    serve sub true sends =
      { calls := sends.map .send ++ [.flush], err := if sub.flushFails then .flush else .nil } := by
  unfold serve
  cases hf : sub.failAt with
  | none => rfl
  | some k => simp only [Bool.not_true, Bool.false_eq_true, if_false, Nat.not_lt.2 (h k hf)]

theorem serve_fail (sub : Sub) (pre : List Entry) (e : Entry) (rest : List Entry) (h : sub.failAt = some pre.length) :
    serve sub true (pre ++ e :: rest) = { calls := (pre ++ [e]).map .send, err := .send } := by
  have hlt : pre.length < (pre ++ e :: rest).length := by simp
  have ht : (pre ++ e :: rest).take (pre.length + 1) = pre ++ [e] := by
    simp [List.take_append, List.take_of_length_le]
  simp only [serve, h, hlt, ht, Bool.not_true, Bool.false_eq_true, if_false, if_true]

theorem mem_of_send_mem_serve {sub : Sub} {started : Bool} {sends : List Entry} {e : Entry}
    (h : Call.send e ∈ (serve sub started sends).calls) : e ∈ sends := by
  unfold serve at h
  split at h
  · simp at h
  · split at h
    · split at h
      · simp only [List.mem_map, Call.send.injEq, exists_eq_right] at h
        exact List.mem_of_mem_take h
      · simpa using h
    · simpa using h

theorem runL_send (sub : Sub) (cond : Entry → Bool) (l : List (Nat × Slot)) (pre : List Entry)
    (hpre : ∀ k, sub.failAt = some k → pre.length ≤ k) :
    ∃ st c, runL (sendStep sub cond) l { calls := pre.map .send, failed := false } = .ok (st, c) ∧
      finishReplay sub st = serve sub true (pre ++ (l.filterMap Prod.snd).filter cond) := by
  induction l generalizing pre with
  | nil => exact ⟨_, true, rfl, by rw [List.filterMap_nil, List.filter_nil, List.append_nil, serve_ok sub pre hpre]; rfl⟩
  | cons p t ih =>
    obtain ⟨j, x⟩ := p
    cases x with
    | none => exact ih pre hpre
    | some e =>
      simp only [runL, sendStep, List.length_map, List.filterMap_cons, List.filter_cons]
      by_cases hc : cond e = true
      · simp only [hc, if_true]
        by_cases hf : sub.failAt = some pre.length
        · rw [if_pos hf, serve_fail sub pre e _ hf]
          exact ⟨_, false, rfl, by simp [finishReplay]⟩
        · rw [if_neg hf]
          have := ih (pre ++ [e]) fun k hk => by
            have := hpre k hk
            have : k ≠ pre.length := fun h => hf (h ▸ hk)
            rw [List.length_append, List.length_singleton]; omega
          simpa using this
      · simp only [hc, Bool.false_eq_true, if_false, if_true]
        exact ih pre hpre

theorem visit_snd {q : Queue} (h : WF q) (k : Nat) (hk : k < q.count) :
    (visit q (idx q k)).map Prod.snd = ((abs q).drop k).map some := by
  rw [visit_idx h k hk, List.map_drop, ← h.slots_eq, slots, ← List.map_drop, List.range_eq_range', List.drop_range']
  simp [pairAt]

theorem each_send {q : Queue} (h : WF q) (k : Nat) (hk : k < q.count) (sub : Sub) (cond : Entry → Bool) :
    ∃ st, q.each (idx q k) (sendStep sub cond) { calls := [], failed := false } = .ok st ∧
      finishReplay sub st = serve sub true (((abs q).drop k).filter cond) := by
  have htl : q.tail ≤ q.buf.length := by have := h.tl; omega
  obtain ⟨st, c, hr, hf⟩ := runL_send sub cond (visit q (idx q k)) [] (by intro k _; simp)
  have hv : (visit q (idx q k)).filterMap Prod.snd = (abs q).drop k := by
    rw [← filterMap_id_map_some ((abs q).drop k), ← visit_snd h k hk, List.filterMap_map]; rfl
  rw [hv] at hf
  refine ⟨st, ?_, by simpa using hf⟩
  rw [each_eq q htl]
  simp only [List.map_nil] at hr
  rw [hr]

theorem afterManual_none (id : EventID) (es : List Entry) (h : ∀ e ∈ es, e.id ≠ id) : afterManual id es = [] := by
  induction es with
  | nil => rfl
  | cons e t ih =>
    simp only [afterManual, h e (by simp), if_false]
    exact ih (fun x hx => h x (by simp [hx]))

theorem afterManual_first (id : EventID) (es : List Entry) (k : Nat) (hk : k < es.length)
    (hid : es[k].id = id) (hfirst : ∀ k' (h' : k' < k), (es[k']'(by omega)).id ≠ id) :
    afterManual id es = es.drop (k + 1) := by
  induction es generalizing k with
  | nil => simp at hk
  | cons e t ih =>
    cases k with
    | zero =>
      simp only [List.getElem_cons_zero] at hid
      simp [afterManual, hid]
    | succ k =>
      have h0 := hfirst 0 (by omega)
      simp only [List.getElem_cons_zero] at h0
      simp only [afterManual, h0, if_false, List.drop_succ_cons]
      apply ih k (by simpa using hk) (by simpa using hid)
      intro k' h'
      have := hfirst (k' + 1) (by omega)
      simpa using this

theorem runL_find (id : EventID) (l : List (Nat × Slot)) (es : List Entry) (i0 : Int)
    (hl : l.map Prod.snd = es.map some) :
    ∃ r c, runL (findStep id) l i0 = .ok (r, c) ∧
      ((c = true ∧ r = i0 ∧ afterManual id es = []) ∨
       (c = false ∧ ∃ k, ∃ hk : k < l.length, r = (l[k].1 : Nat) ∧ afterManual id es = es.drop (k + 1))) := by
  induction l generalizing es with
  | nil =>
    cases es with
    | cons _ _ => simp at hl
    | nil => exact ⟨i0, true, rfl, Or.inl ⟨rfl, rfl, rfl⟩⟩
  | cons p t ih =>
    obtain ⟨j, x⟩ := p
    cases es with
    | nil => simp at hl
    | cons e es' =>
      simp only [List.map_cons, List.cons.injEq] at hl
      obtain ⟨hx, ht⟩ := hl
      subst hx
      simp only [runL, findStep, slotID, afterManual]
      by_cases he : e.id = id
      · simp only [he, if_true]
        exact ⟨_, false, rfl, Or.inr ⟨rfl, 0, by simp, rfl, rfl⟩⟩
      · simp only [he, if_false, if_true]
        obtain ⟨r, c, hr, hcase⟩ := ih es' ht
        refine ⟨r, c, hr, hcase.imp (fun h => h) fun ⟨hc, k, hk, hrk, ha⟩ => ?_⟩
        exact ⟨hc, k + 1, by simpa using hk, by simpa using hrk, by simpa using ha⟩

/-- the `i + 1`, wrapped, of `findIDInQueue` is `wrapSucc` -/
theorem wrapSucc_cast (q : Queue) (i : Nat) :
    (if (i : Int) + 1 = (q.buf.length : Int) then 0 else (i : Int) + 1) = ((wrapSucc q i : Nat) : Int) := by
  unfold wrapSucc; split <;> split <;> omega

theorem idx_succ_eq_tail {q : Queue} (h : WF q) {k : Nat} (hk : k < q.count) :
    idx q (k + 1) = q.tail ↔ k + 1 = q.count := by
  have hcnt := h.cnt
  refine ⟨fun he => Classical.byContradiction fun hne => ?_, fun he => he ▸ h.idx_count⟩
  exact idx_ne (j := k + 1) (k := q.count) (by omega) (by omega) (he.trans h.idx_count.symm)

/-- `findIDInQueue` with manual IDs: −1 when nothing follows the presented ID, otherwise the
slot of the entry right after its first occurrence. -/
theorem findID_manual {q : Queue} (h : WF q) (id : EventID) :
    ∃ r, findIDInQueue q id false = .ok r ∧
      ((r = -1 ∧ afterManual id (abs q) = []) ∨
       (∃ k, k < q.count ∧ r = (idx q k : Nat) ∧ afterManual id (abs q) = (abs q).drop k)) := by
  unfold findIDInQueue
  by_cases hc : q.count = 0
  · rw [if_pos hc]
    exact ⟨-1, rfl, Or.inl ⟨rfl, by rw [abs_nil_of_count hc]; rfl⟩⟩
  · have hpos : 0 < q.count := by omega
    have htl := h.tail_lt (h.pos hpos)
    have hv := visit_idx h 0 hpos
    have hs := visit_snd h 0 hpos
    rw [idx_zero h.hd] at hv hs
    obtain ⟨r, c, hr, hcase⟩ := runL_find id (visit q q.head) (abs q) (-1) hs
    rw [if_neg hc, each_eq q (by omega), hr]
    simp only [Bool.false_eq_true, if_false]
    rcases hcase with ⟨_, hr0, ha⟩ | ⟨_, k, hk, hrk, ha⟩
    · subst hr0
      exact ⟨-1, by simp, Or.inl ⟨rfl, ha⟩⟩
    · have hk' : k < q.count := by simpa [hv] using hk
      have hrk' : r = (idx q k : Nat) := by simpa [hv, pairAt] using hrk
      subst hrk'
      rw [if_pos (by omega)]
      simp only [wrapSucc_cast, ← idx_succ (h.head_lt (h.pos hpos)) (Nat.lt_of_lt_of_le hk' h.cnt), Int.ofNat_inj,
        idx_succ_eq_tail h hk']
      by_cases hl : k + 1 = q.count
      · refine ⟨-1, by rw [if_pos hl], Or.inl ⟨rfl, ?_⟩⟩
        rw [ha, List.drop_of_length_le]; rw [abs_length h]; omega
      · exact ⟨_, by rw [if_neg hl], Or.inr ⟨k + 1, by omega, rfl, ha⟩⟩

end GoSSE.Proofs
