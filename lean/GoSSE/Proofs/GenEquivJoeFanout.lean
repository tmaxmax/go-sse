import GoSSE.Proofs.GenEquivJoeLoop
/-!
# What the folds of `GenEquivJoeLoop` do to each subscriber and to the channel log

What a fan-out does, as the fold of `fanStep` over a duplicate-free order of keys (a map's keys are distinct): every
subscriber is dealt with exactly once, by `outcome` (`fold_at`), the others are not touched (`fold_not_in`), and the
channel log grows by exactly the hand-overs of the failed ones, in order (`fold_log`); likewise for `closeSubscribers`.
-/
set_option linter.unusedSimpArgs false
namespace GoSSE.GenEquiv
open GoSSE GoSSE.GoRT GoSSE.Model

variable {σ : Type}

theorem mapGet_nil {ν : Type} (k : Nat) : mapGet ([] : List (Nat × ν)) k = none := MapL.get_nil k

theorem removeSpec_other (j : Gen.Joe σ) (k k' : Nat) (h : k' ≠ k) :
    mapGet (removeSpec j k).subscribers k' = mapGet j.subscribers k' := by
  unfold removeSpec
  split
  · exact MapL.get_del_other _ _ _ h
  · rfl

theorem removeSpec_self (j : Gen.Joe σ) (k : Nat) : mapGet (removeSpec j k).subscribers k = none := by
  unfold removeSpec
  split
  · exact MapL.get_del_self _ _
  · rename_i h
    exact Option.not_isSome_iff_eq_none.mp h

theorem removeSpec_log (j : Gen.Joe σ) (k : Nat) :
    (removeSpec j k).chlog = j.chlog ++ (if (mapGet j.subscribers k).isSome then [ChanOp.close k] else []) := by
  unfold removeSpec
  split
  · rfl
  · exact (List.append_nil _).symm

theorem failSub_log (j : Gen.Joe σ) (k : Nat) (e : Option String) (h : (mapGet j.subscribers k).isSome) :
    (failSub j k e).chlog = j.chlog ++ [ChanOp.send k e, ChanOp.close k] := by
  rw [failSub, removeSpec_log, if_pos h, List.append_assoc]; rfl

theorem fanStep_absent (msg : Gen.publishedMessage) (j : Gen.Joe σ) (k : Nat) (h : mapGet j.subscribers k = none) :
    fanStep msg j k = j := by
  rw [fanStep, h]

theorem fanStep_other (msg : Gen.publishedMessage) (j : Gen.Joe σ) (k k' : Nat) (h : k' ≠ k) :
    mapGet (fanStep msg j k).subscribers k' = mapGet j.subscribers k' := by
  cases hg : mapGet j.subscribers k with
  | none => rw [fanStep_absent msg j k hg]
  | some sub =>
    obtain ⟨_, e⟩ | ⟨v, _, e, _⟩ | ⟨err, v, _, e, _⟩ := fanStep_cases msg j k sub hg
    · rw [e]
    · rw [e]; exact MapL.get_set_other _ _ _ _ h
    · rw [e, failSub, removeSpec_other _ _ _ h]; exact MapL.get_set_other _ _ _ _ h

theorem fanStep_self (msg : Gen.publishedMessage) (j : Gen.Joe σ) (k : Nat) (sub : Gen.Subscription σ)
    (h : mapGet j.subscribers k = some sub) :
    mapGet (fanStep msg j k).subscribers k =
      match outcome msg sub with
      | .skipped => some sub
      | .delivered sub' => some sub'
      | .failed _ => none := by
  have hs : (mapGet j.subscribers k).isSome := by rw [h]; rfl
  obtain ⟨ho, e⟩ | ⟨v, ho, e, _⟩ | ⟨err, v, ho, e, _⟩ := fanStep_cases msg j k sub h
  · rw [ho, e]; exact h
  · rw [ho, e]; exact MapL.get_set_self _ _ _ hs
  · rw [ho, e]; exact removeSpec_self _ _

/-- what a fan-out appends to the channel log for key `k`, given the entry it finds there: nothing, or — for a failed
subscriber — its error on its own channel and then that channel's close -/
def stepLog (msg : Gen.publishedMessage) (k : Nat) : Option (Gen.Subscription σ) → List (ChanOp (Option String))
  | none => []
  | some sub =>
    match outcome msg sub with
    | .failed e => [ChanOp.send k e, ChanOp.close k]
    | _ => []

theorem fanStep_log (msg : Gen.publishedMessage) (j : Gen.Joe σ) (k : Nat) :
    (fanStep msg j k).chlog = j.chlog ++ stepLog msg k (mapGet j.subscribers k) := by
  cases h : mapGet j.subscribers k with
  | none => rw [fanStep_absent msg j k h]; exact (List.append_nil _).symm
  | some sub =>
    have hs : (mapGet j.subscribers k).isSome := by rw [h]; rfl
    -- the entry is still there when a failed subscriber is removed: the writer state was written back to it
    have hset (v : Gen.Subscription σ) : (mapGet (mapSet j.subscribers k v) k).isSome := by
      rw [MapL.get_set_self _ _ _ hs]; rfl
    show _ = j.chlog ++ match outcome msg sub with
      | .failed e => [ChanOp.send k e, ChanOp.close k]
      | _ => []
    obtain ⟨ho, e⟩ | ⟨v, ho, e, _⟩ | ⟨err, v, ho, e, _⟩ := fanStep_cases msg j k sub h
    · rw [ho, e]; exact (List.append_nil _).symm
    · rw [ho, e]; exact (List.append_nil _).symm
    · rw [ho, e]; exact failSub_log _ k _ (hset v)

theorem foldl_frame {τ κ β : Type} (step : τ → κ → τ) (read : τ → β) (ks : List κ) (s : τ)
    (h : ∀ a ∈ ks, ∀ s, read (step s a) = read s) : read (ks.foldl step s) = read s := by
  induction ks generalizing s with
  | nil => rfl
  | cons a ks ih => rw [List.foldl_cons, ih _ fun b hb => h b (List.mem_cons_of_mem _ hb), h a List.mem_cons_self]

theorem fold_not_in (msg : Gen.publishedMessage) (ks : List Nat) (j : Gen.Joe σ) (k : Nat) (h : k ∉ ks) :
    mapGet (ks.foldl (fanStep msg) j).subscribers k = mapGet j.subscribers k :=
  foldl_frame (fanStep msg) (fun j => mapGet j.subscribers k) ks j fun a ha j =>
    fanStep_other msg j a k fun e => h (e ▸ ha)

/-- **every subscriber is dealt with exactly once**: untouched if its topics do not meet the message's, its writer after
exactly one `Send` and one `Flush` if both succeeded, gone if one of them failed -/
theorem fold_at (msg : Gen.publishedMessage) (ks : List Nat) (j : Gen.Joe σ) (k : Nat) (sub : Gen.Subscription σ)
    (hnd : ks.Nodup) (hk : k ∈ ks) (h : mapGet j.subscribers k = some sub) :
    mapGet (ks.foldl (fanStep msg) j).subscribers k =
      match outcome msg sub with
      | .skipped => some sub
      | .delivered sub' => some sub'
      | .failed _ => none := by
  induction ks generalizing j with
  | nil => simp at hk
  | cons a ks ih =>
    simp only [List.foldl_cons]
    have hnd' := List.nodup_cons.1 hnd
    by_cases ha : a = k
    · subst ha
      rw [fold_not_in msg ks _ a hnd'.1]
      exact fanStep_self msg j a sub h
    · have hk' : k ∈ ks := by
        rcases List.mem_cons.1 hk with h1 | h1
        · exact absurd h1.symm ha
        · exact h1
      apply ih _ hnd'.2 hk'
      rw [fanStep_other msg j a k (fun x => ha x.symm)]
      exact h

/-- **the channel log of a fan-out**: over a duplicate-free order it grows by exactly, for every failed subscriber in
turn, its error on its own channel followed by that channel's close — nothing for the others; so no channel is sent to
or closed twice, and nothing is ever put on a channel that is not closed right after -/
theorem fold_log (msg : Gen.publishedMessage) (ks : List Nat) (j : Gen.Joe σ) (hnd : ks.Nodup) :
    (ks.foldl (fanStep msg) j).chlog = j.chlog ++ ks.flatMap fun k => stepLog msg k (mapGet j.subscribers k) := by
  induction ks generalizing j with
  | nil => simp
  | cons a ks ih =>
    have hnd' := List.nodup_cons.1 hnd
    simp only [List.foldl_cons, List.flatMap_cons]
    rw [ih _ hnd'.2, fanStep_log msg j a, List.append_assoc]
    congr 2
    -- the later keys differ from `a`: the step at `a` did not touch what they find
    rw [List.flatMap_def, List.flatMap_def]
    congr 1
    exact List.map_congr_left fun k hk => by rw [fanStep_other msg j a k fun x => hnd'.1 (x ▸ hk)]

theorem closeFold_other (ks : List Nat) (j : Gen.Joe σ) (k : Nat) (h : k ∉ ks) :
    mapGet (ks.foldl removeSpec j).subscribers k = mapGet j.subscribers k :=
  foldl_frame removeSpec (fun j => mapGet j.subscribers k) ks j fun a ha j => removeSpec_other j a k fun e => h (e ▸ ha)

/-- after `closeSubscribers` no visited key is a subscriber any more -/
theorem closeFold_gone (ks : List Nat) (j : Gen.Joe σ) (k : Nat) (hk : k ∈ ks) :
    mapGet (ks.foldl removeSpec j).subscribers k = none := by
  induction ks generalizing j with
  | nil => simp at hk
  | cons a ks ih =>
    simp only [List.foldl_cons]
    by_cases hin : k ∈ ks
    · exact ih _ hin
    · have ha : k = a := by
        rcases List.mem_cons.1 hk with h1 | h1
        · exact h1
        · exact absurd h1 hin
      subst ha
      rw [closeFold_other ks _ k hin]
      exact removeSpec_self j k

/-- … and every channel of a registered subscriber was closed exactly once, those and no others, in the order visited -/
theorem closeFold_log (ks : List Nat) (j : Gen.Joe σ) (hnd : ks.Nodup) :
    (ks.foldl removeSpec j).chlog =
      j.chlog ++ (ks.filter fun k => (mapGet j.subscribers k).isSome).map ChanOp.close := by
  induction ks generalizing j with
  | nil => simp
  | cons a ks ih =>
    have hnd' := List.nodup_cons.1 hnd
    simp only [List.foldl_cons]
    rw [ih _ hnd'.2, removeSpec_log, List.append_assoc]
    congr 1
    rw [List.filter_congr fun k hk => by rw [removeSpec_other j a k fun x => hnd'.1 (x ▸ hk)]]
    cases h : (mapGet j.subscribers a).isSome <;> simp [List.filter_cons, h]

end GoSSE.GenEquiv
