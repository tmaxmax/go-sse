import GoSSE.Gen.FieldRoutes
import GoSSE.Proofs.GenEquivFields
/-!
# The other construction routes of an ID / event type, as translated from message_fields.go

`(*messageField).Scan` (database/sql), `UnmarshalJSON` (what `encoding/json` decodes is a parameter), `MarshalText`:
each is the model's function (`MField.scan`, `MField.unmarshalJSON`, the set value or an error) for every input and
whatever the receiver held before.
-/
namespace GoSSE.GenEquiv
open GoSSE GoSSE.GoRT GoSSE.Model

/-- the dynamic type of `Scan`'s argument, as the translated code sees it -/
def toAny : ScanSrc → AnyV
  | .nil => .nil
  | .bytes v => .bytes v
  | .string v => .str v
  | .other => .other

/-- the model's error classes as the translated code's error texts -/
def fErrStr : FErr → Option String
  | .nil => none
  | .json => some "json.Unmarshal"
  | .multiline => some "input is multiline"
  | .unsupported => some "unsupported Scan, storing driver.Value type %T into type %T"

def srcLen : ScanSrc → Nat
  | .bytes v => v.length
  | .string v => v.length
  | _ => 0

theorem Scan_eq (fuel : Nat) (prev : Gen.messageField) (prevM : MField) (src : ScanSrc) (hf : srcLen src < fuel) :
    Gen.messageField_Scan fuel prev (toAny src) = .ok (fErrStr (MField.scan prevM src).2, toGenF (MField.scan prevM src).1) := by
  cases src with
  | nil => rfl
  | other => rfl
  | bytes v | string v =>
    refine (assignField_eq fuel v hf).trans ?_
    dsimp only [MField.scan]
    generalize newMessageField v = r
    obtain ⟨m, b⟩ := r
    cases b <;> rfl

theorem UnmarshalJSON_eq (fuel : Nat) (prev : Gen.messageField) (prevM : MField) (data : Bytes) (jsonDecode : Bytes → Option Bytes)
    (hf : ∀ v, jsonDecode data = some v → v.length < fuel) :
    Gen.messageField_UnmarshalJSON fuel prev data jsonDecode =
      .ok (fErrStr (MField.unmarshalJSON prevM data (jsonDecode data)).2, toGenF (MField.unmarshalJSON prevM data (jsonDecode data)).1) := by
  unfold Gen.messageField_UnmarshalJSON MField.unmarshalJSON
  -- the condition is a Bool coerced to a Prop: written out as `… = true`, `cases` on the Bool reaches it
  show (if (data == jsonNull) = true then _ else _) = _
  cases data == jsonNull
  · cases hd : jsonDecode data with
    | none => rfl
    | some v =>
      refine (assignField_eq fuel v (hf v hd)).trans ?_
      dsimp only
      generalize newMessageField v = r
      obtain ⟨m, b⟩ := r
      cases b <;> rfl
  · rfl

theorem MarshalText_field_eq (fuel : Nat) (f : MField) :
    Gen.messageField_MarshalText fuel (toGenF f) =
      .ok (if f.set then some f.value else none, if f.set then none else some "can't marshal unset string to text", toGenF f) := by
  obtain ⟨v, set⟩ := f
  cases set <;> rfl

end GoSSE.GenEquiv
