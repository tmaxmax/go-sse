import GoSSE.Proofs.JoeMore
/-!
Resuming with Last-Event-ID (C04): runs of Joe all of whose labels are `Conforming` —
Put stores (possibly evicting oldest entries), Replay sends exactly the stored publications after
the presented one that match the subscription's topics.
-/
namespace GoSSE.Proofs.Joe
open GoSSE.Model.Joe

theorem take_drop_split {α} (l : List α) (j a b : Nat) (h1 : j ≤ a) (h2 : a ≤ b) :
    (l.take b).drop j = (l.take a).drop j ++ (l.take b).drop a := by
  rw [List.drop_take, List.drop_take, List.drop_take, ← Nat.sub_add_sub_cancel h2 h1, Nat.add_comm, List.take_add,
    List.drop_drop, Nat.add_sub_of_le h1]

/-- the stored publications after the one with the presented ID; nothing if it is absent or newest -/
def afterID (store : List PubId) (k : PubId) : List PubId := (store.dropWhile (· != k)).drop 1

/-- what a conforming replayer sends to subscription `i` given what it holds -/
def replaySends (c : Cfg) (store : List PubId) (i : SubId) : List PubId :=
  match c.subLast i with
  | none => []
  | some k => (afterID store k).filter (matchesP c i)

/-- labels a conforming, non-failing replayer and non-failing replay Sends can produce -/
def Conforming (c : Cfg) (s : St) : Label → Prop
  | .subAccept i rc o => o = .ok ∧ pubsOf rc = replaySends c s.store i
  | .pubAccept _ o => ∃ n, o = .ok n
  | _ => True

inductive ReachableC (c : Cfg) : St → Prop
  | init {s} : IsInit s → s.replayer = true → ReachableC c s
  | step {s s' l} : ReachableC c s → Conforming c s l → step c s l = some s' → ReachableC c s'

theorem ReachableC.reachable {c : Cfg} {s : St} (h : ReachableC c s) : Reachable c s := by
  induction h with
  | init hi _ => exact Reachable.init hi
  | step _ _ hs ih => exact Reachable.step ih hs

/-- publications replayed to a subscription (by the replayer, before it was registered) -/
def replayedPubs (st : SubSt) : List PubId := pubsOf (st.calls.take st.replayed)

theorem pubsOf_calls (st : SubSt) : pubsOf st.calls = replayedPubs st ++ livePubs st := by
  simp only [replayedPubs, livePubs, ← pubsOf_append, List.take_append_drop]

structure RInv (c : Cfg) (s : St) : Prop where
  rep : s.replayer = true
  store : ∃ n, n ≤ s.log.length ∧ s.store = s.log.drop n
  storeAt : ∀ i a, (s.subs i).regAt = some a → ∃ n, n ≤ a ∧ (s.subs i).storeAt = (s.log.take a).drop n
  replayed : ∀ i a, (s.subs i).regAt = some a → replayedPubs (s.subs i) = replaySends c (s.subs i).storeAt i

def RGhostEq (a b : SubSt) : Prop :=
  a.regAt = b.regAt ∧ a.storeAt = b.storeAt ∧ replayedPubs a = replayedPubs b

theorem rGhostEq_refl (a : SubSt) : RGhostEq a a := ⟨rfl, rfl, rfl⟩

theorem rinv_frame {c : Cfg} {s s' : St} (h : RInv c s) (hr : s'.replayer = s.replayer) (hst : s'.store = s.store)
    (hlog : s'.log = s.log) (hg : ∀ k, RGhostEq (s'.subs k) (s.subs k)) : RInv c s' := by
  refine ⟨by rw [hr]; exact h.rep, by rw [hst, hlog]; exact h.store, ?_, ?_⟩
  · intro i a ha
    obtain ⟨e1, e2, _⟩ := hg i
    rw [e1] at ha; rw [e2, hlog]; exact h.storeAt i a ha
  · intro i a ha
    obtain ⟨e1, e2, e3⟩ := hg i
    rw [e1] at ha; rw [e2, e3]; exact h.replayed i a ha

theorem rinv_upd {c : Cfg} {s s' : St} (h : RInv c s) (k : SubId) {st : SubSt} (hsub : s'.subs = upd s.subs k st)
    (hg : RGhostEq st (s.subs k)) (hr : s'.replayer = s.replayer) (hst : s'.store = s.store)
    (hlog : s'.log = s.log) : RInv c s' := by
  refine rinv_frame h hr hst hlog (fun j => ?_)
  rw [hsub]
  by_cases hjk : j = k
  · subst hjk; rw [upd_same]; exact hg
  · rw [upd_other _ _ _ _ hjk]; exact rGhostEq_refl _

theorem rGhostEq_calls {st st' : SubSt} (hl : st.replayed ≤ st.calls.length) (extra : List Call)
    (hc : st'.calls = st.calls ++ extra) (hr : st'.replayed = st.replayed) (hreg : st'.regAt = st.regAt)
    (hs : st'.storeAt = st.storeAt) : RGhostEq st' st :=
  ⟨hreg, hs, by rw [replayedPubs, replayedPubs, hc, hr, List.take_append_of_le_length hl]⟩

theorem step_rinv {c : Cfg} {s s' : St} (hi : Inv s) (hd : DInv c s) (h : RInv c s) (l : Label)
    (hc : Conforming c s l) (hs : step c s l = some s') : RInv c s' := by
  cases step_trans hi hs with
  | subAccept i rc o hpc =>
    -- the conforming replayer sent `replaySends` of what it holds, which is a final piece of the log
    obtain ⟨rfl, hrc⟩ := hc
    obtain ⟨hcalls, _, _, _⟩ := hd.fresh i (Or.inr hpc)
    obtain ⟨n, hn, hstore⟩ := h.store
    refine ⟨by show (ROutcome.ok != .panic && s.replayer) = true; rw [h.rep]; rfl, ⟨n, hn, hstore⟩,
      fun k a ha => ?_, fun k a ha => ?_⟩
    · by_cases hki : k = i
      · subst hki
        simp only [upd_same, Option.some.injEq] at ha ⊢
        subst ha
        exact ⟨n, hn, by rw [List.take_length]; exact hstore⟩
      · simp only [upd_other _ _ _ _ hki] at ha ⊢; exact h.storeAt k a ha
    · by_cases hki : k = i
      · subst hki
        simp only [upd_same, replayedPubs, hcalls, List.nil_append, List.take_length]
        exact hrc
      · simp only [upd_other _ _ _ _ hki] at ha ⊢; exact h.replayed k a ha
  | subAcceptErr i rc => cases hc.1
  | pubAccept p o hpc =>
    obtain ⟨n', rfl⟩ := hc
    obtain ⟨n, hn, hstore⟩ := h.store
    refine ⟨by show (s.replayer && (POutcome.ok n' != .panic)) = true; rw [h.rep]; rfl, ?_, fun i a ha => ?_, h.replayed⟩
    · refine ⟨min (n + n') (s.log.length + 1), by simp; omega, ?_⟩
      show putStore s p (.ok n') = (s.log ++ [p]).drop _
      simp only [putStore, h.rep, if_true]
      rw [hstore, ← List.drop_append_of_le_length hn, List.drop_drop]
      rw [List.drop_eq_drop_min (l := s.log ++ [p]), List.length_append]; rfl
    · obtain ⟨m, hm, hsa⟩ := h.storeAt i a ha
      refine ⟨m, hm, ?_⟩
      show (s.subs i).storeAt = ((s.log ++ [p]).take a).drop m
      rw [List.take_append_of_le_length (hd.bounds i a ha).1]; exact hsa
  | fanStepOk i | fanStepFail i =>
    exact rinv_upd h i rfl (rGhostEq_calls (hd.lenOK i) _ (List.append_assoc _ _ _) rfl rfl rfl) rfl rfl rfl
  | subCall i | subClosedEarly i | subSeeCancel i | subRecvErr i | subRecvClosed i | unsubAcceptMem i
  | unsubAcceptGone i | cancel i => exact rinv_upd h i rfl ⟨rfl, rfl, rfl⟩ rfl rfl rfl
  | fanRemove p i => exact rinv_upd h i rfl ⟨rfl, rfl, rfl⟩ rfl rfl rfl
  | loopExit =>
    refine rinv_frame h rfl rfl rfl fun k => ?_
    show RGhostEq (if k ∈ s.subscribers then closedSub (s.subs k) s.log.length else s.subs k) _
    split
    · exact ⟨rfl, rfl, rfl⟩
    · exact rGhostEq_refl _
  | _ => exact rinv_frame h rfl rfl rfl fun _ => rGhostEq_refl _

theorem reachableC_rinv {c : Cfg} {s : St} (h : ReachableC c s) : RInv c s := by
  induction h with
  | init hi hr =>
    obtain ⟨_, _, hst, _, _, hlog, hsub, _, _⟩ := hi
    refine ⟨hr, ⟨0, by simp, by simp [hst, hlog]⟩, ?_, ?_⟩
    · intro i a ha; simp [(hsub i).2.2.2.2.2.1] at ha
    · intro i a ha; simp [(hsub i).2.2.2.2.2.1] at ha
  | step hr hc hs ih =>
    have hall := reachable_all hr.reachable
    exact step_rinv hall.1 hall.2.1 ih _ hc hs

theorem dropWhile_ne_of_not_mem (pre : List PubId) (k : PubId) (rest : List PubId) (h : k ∉ pre) :
    (pre ++ rest).dropWhile (· != k) = rest.dropWhile (· != k) := by
  induction pre with
  | nil => rfl
  | cons x xs ih =>
    have hx : x ≠ k := fun e => h (by simp [e])
    have hxs : k ∉ xs := fun e => h (by simp [e])
    simp [hx, ih hxs]

theorem afterID_decomp (pre post : List PubId) (k : PubId) (h : k ∉ pre) : afterID (pre ++ k :: post) k = post := by
  simp [afterID, dropWhile_ne_of_not_mem pre k _ h, List.dropWhile]

theorem afterID_window {l : List PubId} (hnd : l.Nodup) (a n : Nat) {k : PubId} (hk : k ∈ (l.take a).drop n) :
    ∃ m, l[m]? = some k ∧ m < a ∧ afterID ((l.take a).drop n) k = (l.take a).drop (m + 1) := by
  have hndw : ((l.take a).drop n).Nodup := (hnd.sublist (List.take_sublist _ _)).sublist (List.drop_sublist _ _)
  obtain ⟨pre, post, hdec⟩ := List.append_of_mem hk
  have hkpre : k ∉ pre := fun hm => by
    rw [hdec] at hndw
    exact (List.nodup_append.mp hndw).2.2 k hm k (by simp) rfl
  have hlen : n + pre.length < a := by
    have := congrArg List.length hdec
    simp at this; omega
  have hdropm : (l.take a).drop (n + pre.length) = k :: post := by
    have : ((l.take a).drop n).drop pre.length = k :: post := by rw [hdec, List.drop_left]
    rwa [List.drop_drop] at this
  refine ⟨n + pre.length, ?_, hlen, ?_⟩
  · have h1 : (l.take a)[n + pre.length]? = some k := by
      have := congrArg List.head? hdropm
      simpa [List.head?_drop] using this
    rw [List.getElem?_take] at h1
    simpa [hlen] using h1
  · rw [hdec, afterID_decomp pre post k hkpre]
    have := congrArg (List.drop 1) hdropm
    simpa [List.drop_drop, Nat.add_comm] using this.symm

theorem afterID_absent (l : List PubId) (k : PubId) (h : k ∉ l) : afterID l k = [] := by
  have := dropWhile_ne_of_not_mem l k [] h
  simp only [List.append_nil] at this
  simp [afterID, this]

/-- executable version of `Conforming`, for concrete runs -/
def confB (c : Cfg) (s : St) : Label → Bool
  | .subAccept i rc o => o == .ok && pubsOf rc == replaySends c s.store i
  | .pubAccept _ o => match o with | .ok _ => true | _ => false
  | _ => true

theorem confB_sound {c : Cfg} {s : St} {l : Label} (h : confB c s l = true) : Conforming c s l := by
  cases l with
  | subAccept i rc o => simp only [confB, Bool.and_eq_true, beq_iff_eq] at h; exact h
  | pubAccept p o =>
    cases o with
    | ok n => exact ⟨n, rfl⟩
    | _ => cases h
  | _ => trivial

def runC (c : Cfg) (s : St) : List Label → Option St
  | [] => some s
  | l :: ls => if confB c s l then (match step c s l with | some s' => runC c s' ls | none => none) else none

theorem runC_reachable {c : Cfg} {s s' : St} {ls : List Label} (h : ReachableC c s) (hr : runC c s ls = some s') :
    ReachableC c s' := by
  induction ls generalizing s with
  | nil => simp only [runC, Option.some.injEq] at hr; subst hr; exact h
  | cons l ls ih =>
    simp only [runC] at hr
    split at hr
    · rename_i hc
      split at hr
      · rename_i s1 hs; exact ih (ReachableC.step h (confB_sound hc) hs) hr
      · simp at hr
    · simp at hr

end GoSSE.Proofs.Joe
