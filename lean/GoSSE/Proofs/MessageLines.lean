import GoSSE.Spec.Message
import GoSSE.Proofs.Lines
/-!
`appendText`'s chunks are exactly the lines the specification's splitter finds in its arguments
(`linesOf`), and each is free of CR and LF.
-/
namespace GoSSE.Proofs
open GoSSE GoSSE.Spec GoSSE.Model

theorem hasNewline_eq_false {s : Bytes} : hasNewline s = false ↔ NlFree s := by
  show s.any isNl = false ↔ _
  rw [List.any_eq_false]
  exact forall₂_congr fun _ _ => Bool.eq_false_iff.symm

theorem isSingleLine_iff (s : Bytes) : isSingleLine s = true ↔ NlFree s :=
  beq_iff_eq.trans newlineIndex_snd_eq_zero

theorem linesOf_noNl (s : Bytes) (h : NlFree s) : linesOf s = if s.isEmpty then [] else [s] := by
  simp only [linesOf, splitLines_noNl s [] h, List.reverse_nil, List.nil_append]

theorem linesOf_term (l term t : Bytes) (hl : NlFree l) (ht : IsTerm term t) :
    linesOf (l ++ term ++ t) = l :: linesOf t := by
  simp only [linesOf, splitLines_terminated l term t [] hl ht, List.reverse_nil, List.nil_append]
  cases (splitLines t [] false).2.isEmpty <;> rfl

theorem appendLoop_nil (ic : Bool) (f : Nat) (cs : List Chunk) : appendLoop ic f [] cs = cs := by
  cases f <;> rfl

theorem appendLoop_eq (ic : Bool) (f : Nat) (c : Bytes) (cs : List Chunk) (h : c.length ≤ f) :
    appendLoop ic f c cs = cs ++ (linesOf c).map (fun l => ⟨l, ic⟩) := by
  induction f generalizing c cs with
  | zero =>
    rw [List.eq_nil_of_length_eq_zero (Nat.le_zero.1 h)]
    exact (List.append_nil cs).symm
  | succ f ih =>
    rcases exists_line_split c with hc | ⟨l, term, t, rfl, hl, ht⟩
    · cases c with
      | nil => exact (List.append_nil cs).symm
      | cons b t =>
        simp only [appendLoop, List.isEmpty_cons, Bool.false_eq_true, if_false, nextChunk_noNl _ hc, appendLoop_nil,
          linesOf_noNl _ hc, List.map_cons, List.map_nil]
    · have := ht.pos
      simp only [List.length_append] at h
      simp only [appendLoop, line_isEmpty l ht, Bool.false_eq_true, if_false, nextChunk_term l term t hl ht,
        linesOf_term l term t hl ht, ih t _ (by omega), List.map_cons]
      exact List.append_assoc cs _ _

theorem linesOf_nlFree (s : Bytes) : ∀ l ∈ linesOf s, NlFree l := by
  suffices h : ∀ n (s : Bytes), s.length < n → ∀ l ∈ linesOf s, NlFree l from h _ s (Nat.lt_succ_self _)
  intro n
  induction n with
  | zero => intro s hs; exact absurd hs (Nat.not_lt_zero _)
  | succ n ih =>
    intro s hs l hl
    rcases exists_line_split s with h | ⟨l', term, t, rfl, hl', ht⟩
    · rw [linesOf_noNl s h] at hl
      split at hl
      · cases hl
      · rw [List.mem_singleton.1 hl]; exact h
    · rw [linesOf_term l' term t hl' ht, List.mem_cons] at hl
      have := ht.pos
      simp only [List.length_append] at hs
      rcases hl with rfl | hl
      · exact hl'
      · exact ih t (by omega) l hl

end GoSSE.Proofs
