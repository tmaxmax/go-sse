import GoSSE.Proofs.GenEquivQueue
import GoSSE.Proofs.GenEquivFields
import GoSSE.Proofs.QueueNum
import GoSSE.Proofs.MessageLines
import GoSSE.Gen.Replay
import GoSSE.Model.Finite
import GoSSE.Model.Valid
/-!
# `FiniteReplayer` and `ValidReplayer` of replay.go as translated compute the model's

The replayers as translated (`Gen/Replay.lean`: `ensureID`, `queue.each`, `findIDInQueue`,
`FiniteReplayer.Put/Replay`, `ValidReplayer.shouldGC/doGC/GC/Put/Replay`, with `Message.Clone`, `ID`, `must`) compute
what `Model/Queue.lean`, `Model/Finite.lean`, `Model/Valid.lean` say, on every state and with a panic exactly where the model has one.
-/
set_option linter.unusedSimpArgs false
namespace GoSSE.GenEquiv
open GoSSE GoSSE.GoRT GoSSE.Model GoSSE.Spec GoSSE.Proofs

theorem formatDigits_eq (fuel u : Nat) (acc : Bytes) : formatDigits fuel u acc = formatBits fuel u acc := by
  induction fuel generalizing u acc with
  | zero => rfl
  | succ f ih => unfold formatDigits formatBits; simp only [ih]

theorem strconvFormatUint_eq (n : Nat) (h : n < 18446744073709551616) :
    strconvFormatUint (UInt64.ofNat n) = fmtUint n := by
  unfold strconvFormatUint fmtUint
  have : (UInt64.ofNat n).toNat = n := by
    simp [UInt64.toNat_ofNat']; omega
  rw [this, formatDigits_eq]

theorem parseUintDigits_eq (s : Bytes) (n : Nat) :
    (parseUintDigits s n).1 = (parseUintLoop s n).1 ∧ (parseUintDigits s n).2.isSome = (parseUintLoop s n).2 := by
  induction s generalizing n with
  | nil => exact ⟨rfl, rfl⟩
  | cons c t ih =>
    unfold parseUintDigits parseUintLoop isDigit maxUint64
    split
    · exact ⟨rfl, rfl⟩
    · dsimp only
      split
      · exact ⟨rfl, rfl⟩
      · exact ih _

theorem strconvParseUint_eq (s : Bytes) :
    (strconvParseUint s).1 = UInt64.ofNat (parseUint s).1 ∧ (strconvParseUint s).2.isSome = (parseUint s).2 := by
  unfold strconvParseUint parseUint
  cases s with
  | nil => simp
  | cons c t =>
    have h := parseUintDigits_eq (c :: t) 0
    simp only [List.isEmpty_cons, Bool.false_eq_true, if_false]
    exact ⟨by rw [h.1], h.2⟩

/-- the translated `EventID` of a model ID (`none` = unset) -/
def genID : EventID → Gen.EventID
  | none => { messageField := { value := [], set := false } }
  | some v => { messageField := { value := v, set := true } }

theorem genID_inj {a b : EventID} : genID a = genID b ↔ a = b := by
  cases a <;> cases b <;> simp [genID]

@[simp] theorem genID_beq (a b : EventID) : (genID a == genID b) = decide (a = b) := by
  by_cases h : a = b
  · subst h; simp
  · have : genID a ≠ genID b := fun e => h (genID_inj.mp e)
    simp [h, this]

@[simp] theorem IsSet_genID (fuel : Nat) (id : EventID) :
    Gen.messageField_IsSet fuel (genID id).messageField = .ok id.isSome := by
  cases id <;> rfl

@[simp] theorem String_genID (fuel : Nat) (id : EventID) :
    Gen.messageField_String fuel (genID id).messageField = .ok (id.getD []) := by
  cases id <;> rfl

theorem isDigit_not_nl (b : Byte) (h : isDigit b = true) : isNl b = false := by
  simp only [isDigit, Bool.and_eq_true, decide_eq_true_eq] at h
  have h1 : 48 ≤ b.toNat := by have := h.1; exact UInt8.le_iff_toNat_le.mp this
  simp only [isNl, Bool.or_eq_false_iff, beq_eq_false_iff_ne, ne_eq]
  constructor <;> intro e <;> subst e <;> simp at h1

theorem nlFree_decimal (n : Nat) : NlFree (decimal n) := by
  intro b hb
  have := (decimal_spec n).1
  rw [List.all_eq_true] at this
  exact isDigit_not_nl b (this b hb)

theorem newID_nlFree (v : Bytes) (h : NlFree v) : newID v = ({ value := v, set := true }, false) := by
  unfold newID newMessageField
  simp [(isSingleLine_iff v).mpr h]

/-- `ID(strconv.FormatUint(n, 10))` never panics -/
theorem ID_digits (fuel : Nat) (n : Nat) (hf : (fmtUint n).length < fuel) :
    Gen.ID fuel (fmtUint n) = .ok (genID (some (fmtUint n))) := by
  unfold Gen.ID
  obtain ⟨err, h1, h2⟩ := NewID_eq fuel (fmtUint n) hf
  have hn : newID (fmtUint n) = ({ value := fmtUint n, set := true }, false) := by
    rw [formatUint_eq]; exact newID_nlFree _ (nlFree_decimal n)
  rw [hn] at h1 h2
  have he : err = none := by cases err <;> simp_all
  subst he
  simp only [bind, Except.bind, h1, Gen.must]
  rfl

@[simp] theorem Clone_eq (fuel : Nat) (m : Gen.Message) : Gen.Message_Clone fuel m = .ok (m, m) := by
  unfold Gen.Message_Clone
  simp [bind, Except.bind, sliceTo_len, pure, Except.pure]

def putErrStr : PutErr → String
  | .noTopic => "ErrNoTopic"
  | .noID => "message has no ID"
  | .hasID => "message already has an ID, can't use generated ID"

def genCur (cur : Option Nat) : Option UInt64 := cur.map UInt64.ofNat

theorem genCur_bne (cur : Option Nat) : (genCur cur != none) = cur.isSome := by
  cases cur <;> rfl

/-- `cur + 1 < 2^64`: the counter of automatic IDs does not wrap around -/
theorem ensureID_eq (fuel : Nat) (m : Gen.Message) (id : EventID) (hm : m.ID = genID id) (cur : Option Nat)
    (hc : ∀ c, cur = some c → c + 1 < 18446744073709551616) (hf : ∀ c, cur = some c → (fmtUint c).length < fuel) :
    Gen.ensureID fuel m (genCur cur) =
      match Model.ensureID id cur with
      | .error e => .ok (none, some (putErrStr e), genCur cur)
      | .ok (id', cur') => .ok (some { m with ID := genID id' }, none, genCur cur') := by
  obtain ⟨ch, mid, ty, rt⟩ := m
  obtain rfl : mid = genID id := hm
  unfold Gen.ensureID Model.ensureID
  cases cur with
  | none => cases id <;> rfl
  | some c =>
    cases id with
    | some v => rfl
    | none =>
      have h1 : strconvFormatUint (UInt64.ofNat c) = fmtUint c := strconvFormatUint_eq c (by have := hc c rfl; omega)
      have h3 : UInt64.ofNat c + 1 = UInt64.ofNat (c + 1) := by
        rw [UInt64.ofNat_add]; rfl
      show (Gen.Message_Clone fuel _ >>= fun m_6 => Gen.ID fuel (strconvFormatUint (UInt64.ofNat c)) >>= fun r =>
        pure (some { m_6.1 with ID := r }, none, some (UInt64.ofNat c + 1))) = _
      rw [Clone_eq, h1, ID_digits fuel c (hf c rfl), h3]
      rfl

/-- the translated queue over any slot representation `g` -/
def toGenQ {T : Type} (g : Slot → T) (q : Queue) : Gen.queue T :=
  { buf := q.buf.map g, head := (q.head : Int), tail := (q.tail : Int), count := (q.count : Int) }

@[simp] theorem toGenQ_head {T : Type} (g : Slot → T) (q : Queue) : (toGenQ g q).head = (q.head : Int) := rfl
@[simp] theorem toGenQ_tail {T : Type} (g : Slot → T) (q : Queue) : (toGenQ g q).tail = (q.tail : Int) := rfl
@[simp] theorem toGenQ_count {T : Type} (g : Slot → T) (q : Queue) : (toGenQ g q).count = (q.count : Int) := rfl
@[simp] theorem toGenQ_buf {T : Type} (g : Slot → T) (q : Queue) : (toGenQ g q).buf = q.buf.map g := rfl

/-- the three loops of `each` are one loop with a different bound -/
def eachBody {T κ : Type} [Inhabited T] (bound : Int) (q : Gen.queue T) (yield : Int → T → κ → GoM (Bool × κ))
    (st : Int × κ) : GoM (Step (Int × κ) (Gen.queue T × κ)) := do
  if decide (st.1 < bound) then do
    let b ← idx q.buf st.1
    let y ← yield st.1 b st.2
    if !y.1 then pure (Step.ret (q, y.2)) else pure (Step.next (st.1 + 1, y.2))
  else pure (Step.brk (st.1, st.2))

theorem each_loop1_is {T κ : Type} [Inhabited T] (fuel : Nat) (q : Gen.queue T) (yield : Int → T → κ → GoM (Bool × κ)) :
    Gen.queue_each_loop1 fuel q yield = eachBody q.tail q yield := by
  funext st; rfl

theorem each_loop2_is {T κ : Type} [Inhabited T] (fuel : Nat) (q : Gen.queue T) (yield : Int → T → κ → GoM (Bool × κ)) :
    Gen.queue_each_loop2 fuel q yield = eachBody (len q.buf) q yield := by
  funext st; rfl

theorem each_loop3_is {T κ : Type} [Inhabited T] (fuel : Nat) (q : Gen.queue T) (yield : Int → T → κ → GoM (Bool × κ)) :
    Gen.queue_each_loop3 fuel q yield = eachBody q.tail q yield := by
  funext st; rfl

theorem eachBody_ge {T κ : Type} [Inhabited T] (bound i : Nat) (q : Gen.queue T) (yield : Int → T → κ → GoM (Bool × κ))
    (a : κ) (h : bound ≤ i) : eachBody (bound : Int) q yield ((i : Int), a) = .ok (.brk ((i : Int), a)) := by
  unfold eachBody
  dsimp only
  rw [natCast_lt_decide, decide_eq_false (Nat.not_lt.mpr h)]; rfl

theorem eachBody_lt {T κ : Type} [Inhabited T] (bound i : Nat) (q : Gen.queue T) (yield : Int → T → κ → GoM (Bool × κ))
    (a : κ) (h : i < bound) : eachBody (bound : Int) q yield ((i : Int), a) =
      idx q.buf (i : Int) >>= fun b => yield (i : Int) b a >>= fun y =>
        pure (if y.1 then Step.next (((i + 1 : Nat) : Int), y.2) else Step.ret (q, y.2)) := by
  unfold eachBody
  dsimp only
  rw [natCast_lt_decide, decide_eq_true h, if_pos rfl]
  congr; funext b; congr; funext y; cases y.1 <;> rfl

theorem idx_map_ok {T : Type} [Inhabited T] (g : Slot → T) (buf : List Slot) (i : Nat) (x : Slot) (h : buf[i]? = some x) :
    idx (buf.map g) (i : Int) = .ok (g x) := by
  obtain ⟨hi, hx⟩ := List.getElem?_eq_some_iff.mp h
  rw [idx_ok _ i (by rw [List.length_map]; exact hi), List.getElem_map, hx]

theorem idx_map_panic {T : Type} [Inhabited T] (g : Slot → T) (buf : List Slot) (i : Nat) (h : buf[i]? = none) :
    idx (buf.map g) (i : Int) = .error (.panic "index out of range") :=
  idx_panic _ i (by rw [List.length_map]; exact Nat.not_lt.mpr (List.getElem?_eq_none_iff.mp h))

/-- the function literal `yield` of the translated code agrees with the model's callback `f` on the slots of `buf`, for
callback states satisfying `P`; `r s` is the literal's captured state for a model state `s` -/
def YieldAgrees {T κ σ : Type} (buf : List Slot) (P : σ → Prop) (g : Slot → T) (r : σ → κ)
    (yield : Int → T → κ → GoM (Bool × κ)) (f : σ → Nat → Slot → QRes (σ × Bool)) : Prop :=
  ∀ (s : σ) (i : Nat) (x : Slot), x ∈ buf → P s →
    AgreesV (fun (p : σ × Bool) => (p.2, r p.1)) (yield (i : Int) (g x) (r s)) (f s i x) ∧
    ∀ s', f s i x = .ok (s', true) → P s'

/-- how a loop of the translated `each` ends, for an outcome of the model's `eachLoop` (the index the loop stopped at
is of no interest to `each`) -/
def EachAgrees {T κ σ : Type} (P : σ → Prop) (r : σ → κ) (gq : Gen.queue T) (res : QRes (σ × Bool))
    (lhs : GoM ((Int × κ) ⊕ (Gen.queue T × κ))) : Prop :=
  match res with
  | .ok (s', true) => ∃ j, lhs = .ok (.inl (j, r s')) ∧ P s'
  | .ok (s', false) => lhs = .ok (.inr (gq, r s'))
  | .panic => ∃ msg, lhs = .error (.panic msg)

@[elab_as_elim]
theorem EachAgrees.elim {T κ σ : Type} {P : σ → Prop} {r : σ → κ} {gq : Gen.queue T}
    {motive : GoM ((Int × κ) ⊕ (Gen.queue T × κ)) → QRes (σ × Bool) → Prop}
    {lhs : GoM ((Int × κ) ⊕ (Gen.queue T × κ))} {res : QRes (σ × Bool)} (h : EachAgrees P r gq res lhs)
    (done : ∀ j s', P s' → motive (.ok (.inl (j, r s'))) (.ok (s', true)))
    (stopped : ∀ s', motive (.ok (.inr (gq, r s'))) (.ok (s', false)))
    (panic : ∀ msg, motive (.error (.panic msg)) .panic) : motive lhs res := by
  cases res with
  | panic => obtain ⟨msg, hm⟩ := h; rw [hm]; exact panic msg
  | ok p =>
    obtain ⟨s', _ | _⟩ := p
    · rw [show lhs = _ from h]; exact stopped s'
    · obtain ⟨j, hj, hP⟩ := h; rw [hj]; exact done j s' hP

theorem eachLoop_eq {T κ σ : Type} [Inhabited T] (P : σ → Prop) (g : Slot → T) (r : σ → κ)
    (yield : Int → T → κ → GoM (Bool × κ))
    (f : σ → Nat → Slot → QRes (σ × Bool)) (q : Queue) (hy : YieldAgrees q.buf P g r yield f) (bound : Nat) :
    ∀ (n i : Nat) (s : σ) (fuel : Nat), P s → n = bound - i → n < fuel →
      EachAgrees P r (toGenQ g q) (Queue.eachLoop q.buf f n i s)
        (loopM (eachBody (bound : Int) (toGenQ g q) yield) fuel ((i : Int), r s)) := by
  intro n
  induction n with
  | zero =>
    intro i s fuel hP hn hf
    obtain ⟨k, rfl⟩ := Nat.exists_eq_add_one_of_ne_zero (Nat.ne_of_gt hf)
    rw [loopM_brk (eachBody_ge _ _ _ _ _ (Nat.le_of_sub_eq_zero hn.symm)) k]
    exact ⟨_, rfl, hP⟩
  | succ n ih =>
    intro i s fuel hP hn hf
    obtain ⟨k, rfl⟩ := Nat.exists_eq_add_one_of_ne_zero (Nat.ne_of_gt (Nat.zero_lt_of_lt hf))
    rw [loopM_succ, eachBody_lt _ _ _ _ _ (Nat.lt_of_sub_pos (hn ▸ Nat.succ_pos n)), toGenQ_buf]
    unfold Queue.eachLoop
    cases hb : q.buf[i]? with
    | none => exact ⟨_, by rw [idx_map_panic g q.buf i hb]; rfl⟩
    | some x =>
      obtain ⟨hyx, hPn⟩ := hy s i x (List.mem_of_getElem? hb) hP
      rw [idx_map_ok g q.buf i x hb, ok_bind]
      dsimp only
      refine hyx.elim' (fun p hp => ?_) (fun msg => ⟨msg, rfl⟩)
      obtain ⟨s', _ | _⟩ := p
      · -- `EachAgrees …` is an equation only once its `match` is evaluated: `exact rfl` unfolds it, the tactic `rfl` does not
        exact rfl
      · exact ih (i + 1) s' k (hPn s' hp) (by rw [Nat.sub_add_eq, ← hn]; rfl) (Nat.lt_of_succ_lt_succ hf)

/-- `q.each(startAt)(literal)`: the model's state (through `r`), the queue untouched, a panic exactly where the model has one -/
theorem each_eq {T κ σ : Type} [Inhabited T] (P : σ → Prop) (g : Slot → T) (r : σ → κ)
    (yield : Int → T → κ → GoM (Bool × κ))
    (f : σ → Nat → Slot → QRes (σ × Bool)) (q : Queue) (hy : YieldAgrees q.buf P g r yield f) (startAt : Nat) (s : σ) (hP : P s)
    (fuel : Nat) (hf : q.tail + q.buf.length + 1 < fuel) :
    AgreesV (fun s' => (toGenQ g q, r s')) (Gen.queue_each fuel (toGenQ g q) (startAt : Int) yield (r s))
      (Queue.each q startAt f s) := by
  have hloop := eachLoop_eq P g r yield f q hy
  have ht : q.tail < fuel := Nat.lt_of_le_of_lt (Nat.le_add_right _ _) (Nat.lt_of_succ_lt hf)
  have hb : q.buf.length < fuel := Nat.lt_of_le_of_lt (Nat.le_add_left _ _) (Nat.lt_of_succ_lt hf)
  unfold Gen.queue_each Queue.each
  dsimp only
  rw [each_loop1_is, each_loop2_is, each_loop3_is, toGenQ_tail, toGenQ_buf, len_eq, List.length_map, natCast_lt_decide]
  by_cases hlt : startAt < q.tail
  · rw [if_pos (decide_eq_true hlt), if_pos hlt]
    exact (hloop q.tail _ startAt s fuel hP rfl (Nat.lt_of_le_of_lt (Nat.sub_le _ _) ht)).elim (fun _ _ _ => rfl)
      (fun _ => rfl) (fun msg => ⟨msg, rfl⟩)
  · rw [if_neg (by rw [decide_eq_true_eq]; exact hlt), if_neg hlt]
    refine (hloop q.buf.length _ startAt s fuel hP rfl (Nat.lt_of_le_of_lt (Nat.sub_le _ _) hb)).elim
      (fun _ s1 hP1 => ?_) (fun _ => rfl) (fun msg => ⟨msg, rfl⟩)
    simp only [bind, Except.bind, Bool.not_true, Bool.false_eq_true, if_false]
    exact (hloop q.tail q.tail 0 s1 fuel hP1 rfl ht).elim (fun _ _ _ => rfl) (fun _ => rfl) (fun msg => ⟨msg, rfl⟩)

theorem u64_ge (a b : Nat) (ha : a < 18446744073709551616) (hb : b < 18446744073709551616) :
    (UInt64.ofNat a ≥ UInt64.ofNat b) ↔ a ≥ b := by
  show UInt64.ofNat b ≤ UInt64.ofNat a ↔ _
  rw [UInt64.le_iff_toNat_le, UInt64.toNat_ofNat_of_lt' ha, UInt64.toNat_ofNat_of_lt' hb]

theorem u64_sub (a b : Nat) (ha : a < 18446744073709551616) (hb : b < 18446744073709551616) (h : b ≤ a) :
    UInt64.ofNat a - UInt64.ofNat b = UInt64.ofNat (a - b) := by
  apply UInt64.toNat_inj.mp
  rw [UInt64.toNat_sub_of_le _ _ ((u64_ge a b ha hb).mpr h), UInt64.toNat_ofNat_of_lt' ha, UInt64.toNat_ofNat_of_lt' hb,
    UInt64.toNat_ofNat_of_lt' (Nat.lt_of_le_of_lt (Nat.sub_le a b) ha)]

theorem u64OfInt_nat (n : Nat) (h : n < 18446744073709551616) : u64OfInt (n : Int) = UInt64.ofNat n := by
  unfold u64OfInt
  rw [Int.emod_eq_of_lt (Int.natCast_nonneg n) (show (n : Int) < 18446744073709551616 from Int.ofNat_lt.mpr h),
    Int.toNat_natCast]

theorem intOfU64_nat (n : Nat) (h : n < 9223372036854775808) : intOfU64 (UInt64.ofNat n) = (n : Int) := by
  unfold intOfU64
  rw [UInt64.toNat_ofNat_of_lt' (Nat.lt_trans h (by decide)), if_pos h]

/-- The `uint64` computation in the automatic-ID branch of `findIDInQueue` — `id ≥ first`, `delta := id - first`,
`delta ≥ uint64(count - 1)`, `int(delta)` — is the one on natural numbers: nothing wraps for values below `2^64`
and a count in `1 … 2^63`. `X` is what happens when the ID is too far ahead, `J` the rest of the function. -/
theorem u64_window {β : Type} (a b c : Nat) (ha : a < 18446744073709551616) (hb : b < 18446744073709551616)
    (hc : c ≠ 0) (hc' : c < 9223372036854775808) (X : β) (J : Int → β) :
    (if decide (UInt64.ofNat a ≥ UInt64.ofNat b) then
        if decide (UInt64.ofNat a - UInt64.ofNat b ≥ u64OfInt ((c : Int) - 1)) then X
        else J (intOfU64 (UInt64.ofNat a - UInt64.ofNat b))
      else J (-1)) =
    if a ≥ b ∧ a - b ≥ c - 1 then X else J (if a ≥ b then ((a - b : Nat) : Int) else -1) := by
  by_cases hge : a ≥ b
  · have hc1 : c - 1 < 18446744073709551616 := by omega
    rw [cast_pred c (Nat.pos_of_ne_zero hc), u64OfInt_nat _ hc1, u64_sub a b ha hb hge]
    simp only [u64_ge a b ha hb, u64_ge (a - b) (c - 1) (Nat.lt_of_le_of_lt (Nat.sub_le a b) ha) hc1, hge, decide_true,
      if_true, true_and, decide_eq_true_eq]
    by_cases hd : a - b ≥ c - 1
    · rw [if_pos hd, if_pos hd]
    · rw [if_neg hd, if_neg hd, intOfU64_nat _ (by omega)]
  · simp only [u64_ge a b ha hb, hge, decide_false, Bool.false_eq_true, if_false, false_and]

theorem parseUintLoop_le (s : Bytes) (n : Nat) (hn : n ≤ maxUint64) : (parseUintLoop s n).1 ≤ maxUint64 := by
  induction s generalizing n with
  | nil => exact hn
  | cons c t ih =>
    unfold parseUintLoop
    by_cases hd : isDigit c = true
    · simp only [hd, Bool.not_true, Bool.false_eq_true, if_false]
      by_cases ho : n * 10 + (c.toNat - 48) > maxUint64
      · simp [ho]
      · simp only [ho, if_false]; exact ih _ (by omega)
    · simp [hd]

theorem parseUint_lt (s : Bytes) : (parseUint s).1 < 18446744073709551616 := by
  unfold parseUint
  cases s with
  | nil => simp
  | cons c t =>
    have := parseUintLoop_le (c :: t) 0 (by unfold maxUint64; omega)
    simp only [List.isEmpty_cons, Bool.false_eq_true, if_false]
    unfold maxUint64 at this; omega

theorem strconvParseUint_err (s : Bytes) : ((strconvParseUint s).2 != none) = (parseUint s).2 := by
  rw [← (strconvParseUint_eq s).2]
  cases (strconvParseUint s).2 <;> rfl

theorem findIDInQueue_j1_eq {M : Type} [Inhabited M] (fuel : Nat) (q : Gen.queue M) (id : Gen.EventID) (pos : Int) :
    Gen.findIDInQueue_j1 fuel q id pos =
      .ok (if pos + q.head + 1 ≥ len q.buf then pos + q.head + 1 - len q.buf else pos + q.head + 1, q) := by
  unfold Gen.findIDInQueue_j1 Gen.findIDInQueue_j2
  by_cases h : pos + q.head + 1 ≥ len q.buf
  · rw [if_pos (decide_eq_true h), if_pos h]; rfl
  · rw [if_neg (mt of_decide_eq_true h), if_neg h]; rfl

theorem findIDInQueue_j3_eq {M : Type} [Inhabited M] (fuel : Nat) (q : Gen.queue M) (i : Int) :
    Gen.findIDInQueue_j3 fuel q i = .ok (if i = q.tail then -1 else i, q) := by
  unfold Gen.findIDInQueue_j3
  by_cases h : i = q.tail
  · rw [if_pos (beq_iff_eq.mpr h), if_pos h]; rfl
  · rw [if_neg (mt beq_iff_eq.mp h), if_neg h]; rfl

/-- the method dictionary agrees with the model's `m.ID()` -/
def IDAgrees {T : Type} (g : Slot → T) (M_ID : Nat → T → GoM Gen.EventID) : Prop :=
  ∀ (fuel : Nat) (x : Slot), AgreesV genID (M_ID fuel (g x)) (slotID x)

theorem findLit_agrees {T : Type} (buf : List Slot) (g : Slot → T) (M_ID : Nat → T → GoM Gen.EventID) (hid : IDAgrees g M_ID)
    (fuel : Nat) (id : EventID) :
    YieldAgrees buf (fun _ => True) g (fun (x : Int) => x)
      (fun (j : Int) (m : T) (cst : Int) => (do
        let m_29 ← M_ID fuel m
        if (m_29 == genID id) then pure (false, j) else pure (true, cst) : GoM (Bool × Int)))
      (findStep id) := by
  intro s i x _ _
  refine ⟨?_, fun _ _ => trivial⟩
  unfold findStep
  dsimp only
  refine (hid fuel x).elim (fun mid => ?_) (fun msg => ⟨msg, rfl⟩)
  simp only [bind, Except.bind, genID_beq]
  by_cases he : mid = id
  · rw [if_pos (decide_eq_true he), if_pos he]; exact rfl
  · rw [if_neg (mt of_decide_eq_true he), if_neg he]; exact rfl

/-- the head slot's ID as text, where the automatic-ID branch of `findIDInQueue` reads it; `K`, `K'` are what follows -/
theorem headID_agrees {T α β : Type} [Inhabited T] (g : Slot → T) (M_ID : Nat → T → GoM Gen.EventID)
    (hid : IDAgrees g M_ID) (q : Queue) (fuel : Nat) (v : α → β) (K : Bytes → GoM β) (K' : EventID → QRes α)
    (h : ∀ fid, AgreesV v (K (fid.getD [])) (K' fid)) :
    AgreesV v (do
        let b ← idx (q.buf.map g) q.head
        let m ← M_ID fuel b
        let s ← Gen.messageField_String fuel m.messageField
        K s)
      (match q.buf[q.head]? with
        | none => .panic
        | some slot =>
          match slotID slot with
          | .panic => .panic
          | .ok fid => K' fid) := by
  cases hb : q.buf[q.head]? with
  | none => rw [idx_map_panic g q.buf q.head hb]; exact ⟨_, rfl⟩
  | some slot =>
    rw [idx_map_ok g q.buf q.head slot hb, ok_bind]
    dsimp only
    refine (hid fuel slot).elim (fun fid => ?_) (fun msg => ⟨msg, rfl⟩)
    rw [ok_bind, String_genID, ok_bind]
    exact h fid

/-- `findIDInQueue`: the same index (−1 = nothing to replay) or a panic on both sides; the queue comes back untouched.
`count < 2^63`: the source computes `uint64(count - 1)` and `int(delta)` with `delta < count` (`u64_window`). -/
theorem findIDInQueue_eq {T : Type} [Inhabited T] (g : Slot → T) (M_ID : Nat → T → GoM Gen.EventID)
    (hid : IDAgrees g M_ID) (q : Queue) (id : EventID) (auto : Bool) (fuel : Nat)
    (hf : q.tail + q.buf.length + 1 < fuel) (hcount : q.count < 9223372036854775808) :
    AgreesV (fun i => (i, toGenQ g q)) (Gen.findIDInQueue fuel M_ID (toGenQ g q) (genID id) auto)
      (Model.findIDInQueue q id auto) := by
  unfold Gen.findIDInQueue Model.findIDInQueue
  have hz : ((toGenQ g q).count == (0 : Int)) = (q.count == 0) := natCast_beq_zero q.count
  by_cases hc : q.count = 0
  · rw [if_pos (hz.trans (beq_iff_eq.mpr hc)), if_pos hc]; exact rfl
  rw [if_neg (by rw [hz, beq_iff_eq]; exact hc), if_neg hc]
  cases auto with
  | false =>
    -- manual IDs: scan the ring from the head for the ID
    show AgreesV _ (Gen.queue_each fuel (toGenQ g q) (q.head : Int) _ (-1 : Int) >>= _)
      (match q.each q.head (findStep id) (-1 : Int) with
        | .panic => .panic
        | .ok i => _)
    refine (each_eq (fun _ => True) g (fun (x : Int) => x) _ (findStep id) q (findLit_agrees q.buf g M_ID hid fuel id)
      q.head (-1 : Int) trivial fuel hf).elim (fun i => ?_) (fun msg => ⟨msg, rfl⟩)
    simp only [ok_bind, findIDInQueue_j3_eq, toGenQ_tail, toGenQ_buf, len, List.length_map, bne_iff_ne, beq_iff_eq]
    refine AgreesV.ite (fun _ => ?_) (fun _ => rfl)
    by_cases hw : i + 1 = (q.buf.length : Int) <;> simp only [hw, if_true, if_false] <;> exact rfl
  | true =>
    -- automatic IDs: the position is the difference of the numbers in the ID and in the first entry's ID
    rw [if_pos rfl, if_pos rfl, String_genID, ok_bind]
    dsimp only
    rw [strconvParseUint_err]
    cases (parseUint (id.getD [])).2 with
    | true => exact rfl
    | false =>
      rw [if_neg Bool.false_ne_true, if_neg Bool.false_ne_true]
      refine headID_agrees g M_ID hid q fuel _ _ _ (fun fid => ?_)
      rw [(strconvParseUint_eq _).1, (strconvParseUint_eq _).1, toGenQ_count,
        u64_window _ _ q.count (parseUint_lt _) (parseUint_lt _) hc hcount]
      simp only [findIDInQueue_j1_eq, toGenQ_head, toGenQ_buf, len, List.length_map]
      exact AgreesV.ite (fun _ => rfl) (fun _ => rfl)

/-! `GenEquivQueue` relates the translated `enqueue / dequeue / resize` at `T = Slot` to the model. They are generic in
`T`, and commute with any map `g` of the slots that sends the zero slot to the zero value — which carries those
theorems over to the slot types the replayers really use (`messageWithTopics`, `messageWithTopicsAndExpiry`). -/

def mapQ {T : Type} (g : Slot → T) (q : Gen.queue Slot) : Gen.queue T :=
  { buf := q.buf.map g, head := q.head, tail := q.tail, count := q.count }

theorem toGenQ_eq_mapQ {T : Type} (g : Slot → T) (q : Queue) : toGenQ g q = mapQ g (toGen q) := rfl

theorem setIdx_map {α β : Type} (g : α → β) (l : List α) (i : Int) (v : α) :
    setIdx (l.map g) i (g v) = Except.map (List.map g) (setIdx l i v) := by
  unfold setIdx len
  rw [List.length_map, ← List.map_set]
  split <;> rfl

theorem makeSlice_map {α β : Type} (g : α → β) (z : α) (n : Int) :
    makeSlice (g z) n = Except.map (List.map g) (makeSlice z n) := by
  unfold makeSlice
  rw [← List.map_replicate]
  split <;> rfl

theorem slice_map {α β : Type} (g : α → β) (l : List α) (i j : Int) :
    slice (l.map g) i j = Except.map (List.map g) (slice l i j) := by
  unfold slice len
  rw [List.length_map, ← List.map_take, ← List.map_drop]
  split <;> rfl

theorem sliceFrom_map {α β : Type} (g : α → β) (l : List α) (i : Int) :
    sliceFrom (l.map g) i = Except.map (List.map g) (sliceFrom l i) := by
  unfold sliceFrom len
  rw [List.length_map, ← List.map_drop]
  split <;> rfl

theorem sliceTo_map {α β : Type} (g : α → β) (l : List α) (j : Int) :
    sliceTo (l.map g) j = Except.map (List.map g) (sliceTo l j) := by
  unfold sliceTo len
  rw [List.length_map, ← List.map_take]
  split <;> rfl

theorem copyInto_map {α β : Type} (g : α → β) (dst : List α) (off : Int) (src : List α) :
    copyInto (dst.map g) off (src.map g) = Except.map (fun p => (p.1.map g, p.2)) (copyInto dst off src) := by
  unfold copyInto len
  simp only [List.length_map, ← List.map_take, ← List.map_drop, ← List.map_append]
  split <;> rfl

/-- with `ite_param` this takes the generic queue code apart statement by statement -/
theorem bind_param {α α' β β' : Type} {f : α → α'} {h : β → β'} {x' : GoM α'} {x : GoM α} {k' : α' → GoM β'}
    {k : α → GoM β} (hx : x' = Except.map f x) (hk : ∀ a, k' (f a) = Except.map h (k a)) :
    (x' >>= k') = Except.map h (x >>= k) := by
  subst hx
  cases x with
  | error e => rfl
  | ok a => exact hk a

theorem ite_param {β β' : Type} {h : β → β'} (c : Prop) [Decidable c] {a' b' : GoM β'} {a b : GoM β}
    (ha : a' = Except.map h a) (hb : b' = Except.map h b) :
    (if c then a' else b') = Except.map h (if c then a else b) := by
  split
  · exact ha
  · exact hb

theorem enqueue_param {T : Type} [Inhabited T] (g : Slot → T) (fuel : Nat) (q : Gen.queue Slot) (v : Slot) :
    Gen.queue_enqueue fuel (mapQ g q) (g v) = Except.map (mapQ g) (Gen.queue_enqueue fuel q v) := by
  unfold Gen.queue_enqueue
  refine bind_param (setIdx_map g q.buf q.tail v) (fun l => ?_)
  simp only [len, List.length_map]
  exact ite_param _ (ite_param _ rfl rfl) (ite_param _ rfl rfl)

theorem dequeue_param {T : Type} [Inhabited T] (g : Slot → T) (hg : g none = default) (fuel : Nat) (q : Gen.queue Slot) :
    Gen.queue_dequeue fuel (mapQ g q) = Except.map (mapQ g) (Gen.queue_dequeue fuel q) := by
  unfold Gen.queue_dequeue
  rw [← hg]
  refine bind_param (setIdx_map g q.buf q.head none) (fun l => ?_)
  simp only [len, List.length_map]
  exact ite_param _ rfl rfl

theorem resize_param {T : Type} [Inhabited T] (g : Slot → T) (hg : g none = default) (fuel : Nat) (q : Gen.queue Slot)
    (n : Int) : Gen.queue_resize fuel (mapQ g q) n = Except.map (mapQ g) (Gen.queue_resize fuel q n) := by
  unfold Gen.queue_resize
  rw [← hg]
  refine bind_param (makeSlice_map g none n) (fun buf => ite_param _ ?_ ?_)
  · refine bind_param (slice_map g q.buf q.head q.tail) (fun s => ?_)
    exact bind_param (copyInto_map g buf 0 s) (fun cp => rfl)
  · refine bind_param (sliceFrom_map g q.buf q.head) (fun s => ?_)
    refine bind_param (copyInto_map g buf 0 s) (fun cp => ?_)
    refine bind_param (sliceTo_map g q.buf q.tail) (fun s2 => ?_)
    exact bind_param (copyInto_map g cp.1 cp.2 s2) (fun cp2 => rfl)

theorem enqueue_eqG {T : Type} [Inhabited T] (g : Slot → T) (fuel : Nat) (q : Queue) (v : Entry) :
    AgreesV (toGenQ g) (Gen.queue_enqueue fuel (toGenQ g q) (g (some v))) (Queue.enqueue q v) := by
  rw [toGenQ_eq_mapQ, enqueue_param]
  exact (enqueue_eq fuel q v).agreesV.map (mapQ g)

theorem dequeue_eqG {T : Type} [Inhabited T] (g : Slot → T) (hg : g none = default) (fuel : Nat) (q : Queue)
    (hc : 0 < q.count) : AgreesV (toGenQ g) (Gen.queue_dequeue fuel (toGenQ g q)) (Queue.dequeue q) := by
  rw [toGenQ_eq_mapQ, dequeue_param g hg]
  exact (dequeue_eq fuel q hc).agreesV.map (mapQ g)

theorem resize_eqG {T : Type} [Inhabited T] (g : Slot → T) (hg : g none = default) (fuel : Nat) (q : Queue) (n : Nat) :
    AgreesV (toGenQ g) (Gen.queue_resize fuel (toGenQ g q) (n : Int)) (Queue.resize q n) := by
  rw [toGenQ_eq_mapQ, resize_param g hg]
  exact (resize_eq fuel q n).agreesV.map (mapQ g)

/-- the translated slot of a model slot; `mk` says which message an entry stands for -/
def gSlot (mk : Entry → Gen.Message) : Slot → Gen.messageWithTopics
  | none => { message := none, topics := [] }
  | some e => { message := some (mk e), topics := e.topics }

theorem gSlot_none (mk : Entry → Gen.Message) : gSlot mk none = default := rfl

def CarriesID (mk : Entry → Gen.Message) : Prop := ∀ e, (mk e).ID = genID e.id

theorem idAgrees_gSlot (mk : Entry → Gen.Message) (hmk : CarriesID mk) : IDAgrees (gSlot mk) Gen.messageWithTopics_ID := by
  intro fuel x
  cases x with
  | none => exact ⟨_, rfl⟩
  | some e => exact congrArg Except.ok (hmk e)

def toGenFin (mk : Entry → Gen.Message) (f : Finite) : Gen.FiniteReplayer :=
  { currentID := genCur f.currentID, buf := toGenQ (gSlot mk) f.buf }

/-- what the translated `Put` returns, for an outcome of the model's `put` (`toG`: the replayer's representation) -/
def PutAgrees {F G : Type} (mk : Entry → Gen.Message) (toG : F → G) (res : QRes (Except PutErr Entry × F))
    (lhs : GoM (Option Gen.Message × Option String × G)) : Prop :=
  match res with
  | .panic => ∃ msg, lhs = .error (.panic msg)
  | .ok (.error e, f') => lhs = .ok (none, some (putErrStr e), toG f')
  | .ok (.ok entry, f') => lhs = .ok (some (mk entry), none, toG f')

/-- `FiniteReplayer.Put`: the caller's message `m` (tag `k`, ID `id`) goes in; the verdict, the stored message and the
replayer afterwards are the model's. The caller's `m` itself is an input only: nothing is handed back for it. -/
theorem finitePut_eq (mk : Entry → Gen.Message) (f : Finite) (k : Nat) (id : EventID) (topics : List Bytes)
    (m : Gen.Message) (hm : m.ID = genID id)
    (hmk : ∀ id', mk { msg := k, id := id', topics := topics, exp := 0 } = { m with ID := genID id' })
    (hc : ∀ c, f.currentID = some c → c + 1 < 18446744073709551616) (fuel : Nat)
    (hf : ∀ c, f.currentID = some c → (fmtUint c).length < fuel) :
    PutAgrees mk (toGenFin mk) (Finite.put f k id topics) (Gen.FiniteReplayer_Put fuel (toGenFin mk f) (some m) topics) := by
  unfold Gen.FiniteReplayer_Put Finite.put
  rw [len_eq_zero_iff]
  cases topics.isEmpty with
  | true => exact rfl
  | false =>
    show PutAgrees _ _ _ (Gen.ensureID fuel m (genCur f.currentID) >>= _)
    rw [ensureID_eq fuel m id hm f.currentID hc hf]
    cases Model.ensureID id f.currentID with
    | error e => exact rfl
    | ok p =>
      obtain ⟨id', cur'⟩ := p
      dsimp only
      rw [← hmk id']
      show PutAgrees _ _ _ (Gen.queue_enqueue fuel (toGenQ (gSlot mk) f.buf)
        (gSlot mk (some { msg := k, id := id', topics := topics, exp := 0 })) >>= _)
      exact (enqueue_eqG (gSlot mk) fuel f.buf _).elim (fun _ => rfl) (fun msg => ⟨msg, rfl⟩)

/-- what a recording subscriber saw -/
inductive GCall
  | send (m : Option Gen.Message)
  | flush

/-- the model's subscriber as a `MessageWriter`: the state is the list of calls so far (before a failure only Sends:
its length is the index of the next Send); its `failAt`-th Send fails, its Flush may -/
def recW (failAt : Option Nat) (flushFails : Bool) (st : List GCall) : MsgWriter Gen.Message (List GCall) :=
  { st := st,
    send := fun st m => (if failAt = some st.length then some "SEND" else none, st ++ [GCall.send m]),
    flush := fun st => (if flushFails then some "FLUSH" else none, st ++ [GCall.flush]) }

def gSub (sub : Sub) (st : List GCall) : Gen.Subscription (List GCall) :=
  { Client := recW sub.failAt sub.flushFails st, LastEventID := genID sub.lastEventID, Topics := sub.topics }

def gCall (mk : Entry → Gen.Message) : Call → GCall
  | .send e => .send (some (mk e))
  | .flush => .flush

def errOf : RErr → Option String
  | .nil => none
  | .send => some "SEND"
  | .flush => some "FLUSH"

/-- what the translated `Replay` returns, for an outcome of the model's `replay` -/
def ReplayAgrees {G : Type} (mk : Entry → Gen.Message) (sub : Sub) (g : G) (res : QRes ReplayOut)
    (lhs : GoM (Option String × G × Gen.Subscription (List GCall))) : Prop :=
  match res with
  | .panic => ∃ msg, lhs = .error (.panic msg)
  | .ok out => lhs = .ok (errOf out.err, g, gSub sub (out.calls.map (gCall mk)))

/-- the state of the literal in `Replay`, for a state of the model's callback that has seen no failure -/
def sendR (mk : Entry → Gen.Message) (sub : Sub) (st : SendSt) : Gen.Subscription (List GCall) × Option String :=
  (gSub sub (st.calls.map (gCall mk)), if st.failed then some "SEND" else none)

def SendInv (st : SendSt) : Prop := st.failed = false

/-- What the function literals of both `Replay`s do once the filter has answered `c`: `Send` the slot's message `msg`
when it passed, and stop the iteration with the error if that fails. -/
def sendTail (c : Bool) (msg : Option Gen.Message) (cst : Gen.Subscription (List GCall) × Option String) :
    GoM (Bool × (Gen.Subscription (List GCall) × Option String)) :=
  if c then
    let w := cst.1.Client.send cst.1.Client.st msg
    let subscription := { cst.1 with Client := { cst.1.Client with st := w.2 } }
    if w.1 != none then pure (false, subscription, w.1) else pure (true, subscription, w.1)
  else pure (true, cst.1, cst.2)

theorem sendTail_sendR (mk : Entry → Gen.Message) (sub : Sub) (calls : List Call) (e : Entry) :
    sendTail true (some (mk e)) (sendR mk sub { calls := calls, failed := false }) =
      .ok (if sub.failAt = some calls.length then (false, sendR mk sub { calls := calls ++ [.send e], failed := true })
        else (true, sendR mk sub { calls := calls ++ [.send e], failed := false })) := by
  unfold sendTail sendR
  simp only [if_true, gSub, recW, List.length_map, List.map_append]
  by_cases hfail : sub.failAt = some calls.length
  · rw [if_pos hfail, if_pos hfail]; rfl
  · rw [if_neg hfail, if_neg hfail]; rfl

/-- What both `Replay`s do after the iteration: hand back the error of a failed `Send`, or else `Flush`. `gv` is the
replayer, which is handed back with it. -/
def flushTail {G : Type} (gv : G) (cst : Gen.Subscription (List GCall) × Option String) :
    GoM (Option String × G × Gen.Subscription (List GCall)) :=
  if cst.2 != none then pure (cst.2, gv, cst.1)
  else
    let w := cst.1.Client.flush cst.1.Client.st
    pure (w.1, gv, { cst.1 with Client := { cst.1.Client with st := w.2 } })

theorem flushTail_sendR {G : Type} (mk : Entry → Gen.Message) (sub : Sub) (gv : G) (st : SendSt) :
    flushTail gv (sendR mk sub st) =
      .ok (errOf (finishReplay sub st).err, gv, gSub sub ((finishReplay sub st).calls.map (gCall mk))) := by
  obtain ⟨calls, failed⟩ := st
  cases failed with
  | true => rfl
  | false =>
    unfold flushTail sendR finishReplay
    simp only [gSub, recW, Bool.false_eq_true, if_false, List.map_append]
    cases sub.flushFails <;> rfl

/-- both `Replay` literals are of this form, each with its own filter `cond` -/
theorem sendLit_agrees {T : Type} (mk : Entry → Gen.Message) (sub : Sub) (buf : List Slot) (g : Slot → T)
    (lit : Int → T → (Gen.Subscription (List GCall) × Option String) →
      GoM (Bool × (Gen.Subscription (List GCall) × Option String)))
    (cond : Entry → Bool)
    (hnone : ∀ (i : Int) st, lit i (g none) (sendR mk sub st) = .ok (true, sendR mk sub st))
    (hsome : ∀ (i : Int) e st, some e ∈ buf →
      lit i (g (some e)) (sendR mk sub st) = sendTail (cond e) (some (mk e)) (sendR mk sub st)) :
    YieldAgrees buf SendInv g (sendR mk sub) lit (sendStep sub cond) := by
  intro st i x hx hP
  cases x with
  | none => exact ⟨hnone i st, fun s' h => by cases h; exact hP⟩
  | some e =>
    rw [hsome i e st hx]
    unfold sendStep
    dsimp only
    cases cond e with
    | false => exact ⟨rfl, fun s' h => by cases h; exact hP⟩
    | true =>
      obtain ⟨calls, failed⟩ := st
      cases (hP : failed = false)
      rw [sendTail_sendR, if_pos rfl]
      by_cases hfail : sub.failAt = some calls.length
      · rw [if_pos hfail, if_pos hfail]; exact ⟨show _ = _ from rfl, fun s' h => by cases h⟩
      · rw [if_neg hfail, if_neg hfail]; exact ⟨show _ = _ from rfl, fun s' h => by cases h; rfl⟩

/-- what both `Replay`s do once `findIDInQueue` has answered an index `i ≥ 0` -/
def eachFlush {T G : Type} [Inhabited T] (fuel : Nat) (q : Gen.queue T) (i : Int)
    (lit : Int → T → (Gen.Subscription (List GCall) × Option String) →
      GoM (Bool × (Gen.Subscription (List GCall) × Option String)))
    (gv : G) (subscription : Gen.Subscription (List GCall)) : GoM (Option String × G × Gen.Subscription (List GCall)) :=
  Gen.queue_each fuel q i lit (subscription, (none : Option String)) >>= fun it => flushTail gv it.2

/-- the function literal of `FiniteReplayer.Replay`, as translated (`FiniteReplayer_Replay` below is checked to contain
exactly this: `finiteReplay_unfold` is closed by `rfl`) -/
def finiteLit (fuel : Nat) : Int → Gen.messageWithTopics → (Gen.Subscription (List GCall) × Option String) →
    GoM (Bool × (Gen.Subscription (List GCall) × Option String)) :=
  fun _blank m cst_38 => do
    let subscription := cst_38.1
    let err := cst_38.2
    let r_39 ← Gen.topicsIntersect fuel (subscription).Topics (m).topics
    if r_39 then do
      let w_40 := ((subscription).Client).send ((subscription).Client).st (m).message
      let subscription := { subscription with Client := { (subscription).Client with st := w_40.2 } }
      let err : (Option String) := w_40.1
      if (err != none) then do
        pure (false, subscription, err)
      else do
        pure (true, subscription, err)
    else do
      pure (true, subscription, err)

theorem finiteReplay_unfold (fuel : Nat) (f : Gen.FiniteReplayer) (subscription : Gen.Subscription (List GCall)) :
    Gen.FiniteReplayer_Replay fuel f subscription =
      Gen.findIDInQueue fuel Gen.messageWithTopics_ID f.buf subscription.LastEventID (f.currentID != none) >>= fun m =>
        if decide (m.1 < 0) then pure (none, { f with buf := m.2 }, subscription)
        else eachFlush fuel m.2 m.1 (finiteLit fuel) { f with buf := m.2 } subscription := rfl

/-- the topic lists are shorter than the fuel (the translated `topicsIntersect` is a loop over both) -/
def TopicsFuel (fuel : Nat) (buf : List Slot) (sub : Sub) : Prop :=
  sub.topics.length < fuel ∧ ∀ e, some e ∈ buf → e.topics.length < fuel

theorem topicsIntersect_nil (a : List Bytes) : topicsIntersect a [] = false := by
  unfold topicsIntersect; simp

theorem finiteLit_agrees (mk : Entry → Gen.Message) (sub : Sub) (buf : List Slot) (fuel : Nat) (hft : TopicsFuel fuel buf sub) :
    YieldAgrees buf SendInv (gSlot mk) (sendR mk sub) (finiteLit fuel)
      (sendStep sub fun e => topicsIntersect sub.topics e.topics) := by
  refine sendLit_agrees mk sub buf (gSlot mk) _ _ (fun i st => ?_) (fun i e st he => ?_)
  · show Gen.topicsIntersect fuel sub.topics [] >>= _ = _
    rw [topicsIntersect_eq fuel sub.topics [] hft.1 (Nat.zero_lt_of_lt hft.1), topicsIntersect_nil]
    rfl
  · show Gen.topicsIntersect fuel sub.topics e.topics >>= _ = _
    rw [topicsIntersect_eq fuel sub.topics e.topics hft.1 (hft.2 e he)]
    rfl

theorem replayFrom_agrees {T G : Type} [Inhabited T] (mk : Entry → Gen.Message) (sub : Sub) (g : Slot → T)
    (lit : Int → T → (Gen.Subscription (List GCall) × Option String) →
      GoM (Bool × (Gen.Subscription (List GCall) × Option String)))
    (cond : Entry → Bool) (q : Queue) (hy : YieldAgrees q.buf SendInv g (sendR mk sub) lit (sendStep sub cond))
    (gv : G) (fuel : Nat) (hf : q.tail + q.buf.length + 1 < fuel) (i : Int) :
    ReplayAgrees mk sub gv
      (if i < 0 then .ok { calls := [], err := .nil } else
        match q.each i.toNat (sendStep sub cond) { calls := [], failed := false } with
        | .panic => .panic
        | .ok st => .ok (finishReplay sub st))
      (if decide (i < 0) then pure (none, gv, gSub sub []) else eachFlush fuel (toGenQ g q) i lit gv (gSub sub [])) := by
  by_cases hneg : i < 0
  · rw [if_pos hneg, if_pos (decide_eq_true hneg)]; exact rfl
  · rw [if_neg hneg, if_neg (by rw [decide_eq_true_eq]; exact hneg)]
    have he := each_eq SendInv g (sendR mk sub) lit (sendStep sub cond) q hy i.toNat { calls := [], failed := false }
      rfl fuel hf
    rw [show ((i.toNat : Nat) : Int) = i by omega] at he
    unfold eachFlush
    exact he.elim (fun st => flushTail_sendR mk sub gv st) (fun msg => ⟨msg, rfl⟩)

/-- `FiniteReplayer.Replay`: the subscriber sees the model's calls in the model's order and `Replay` returns the
model's error; the replayer is unchanged; a panic exactly where the model has one -/
theorem finiteReplay_eq (mk : Entry → Gen.Message) (hmk : CarriesID mk) (f : Finite) (sub : Sub) (fuel : Nat)
    (hf : f.buf.tail + f.buf.buf.length + 1 < fuel) (hcount : f.buf.count < 9223372036854775808)
    (hft : TopicsFuel fuel f.buf.buf sub) :
    ReplayAgrees mk sub (toGenFin mk f) (Finite.replay f sub)
      (Gen.FiniteReplayer_Replay fuel (toGenFin mk f) (gSub sub [])) := by
  rw [finiteReplay_unfold, show ((toGenFin mk f).currentID != none) = f.currentID.isSome from genCur_bne _]
  unfold Finite.replay
  refine (findIDInQueue_eq (gSlot mk) Gen.messageWithTopics_ID (idAgrees_gSlot mk hmk) f.buf sub.lastEventID
    f.currentID.isSome fuel hf hcount).elim (fun i => ?_) (fun msg => ⟨msg, rfl⟩)
  exact replayFrom_agrees mk sub (gSlot mk) (finiteLit fuel) _ f.buf (finiteLit_agrees mk sub f.buf.buf fuel hft)
    (toGenFin mk f) fuel hf i

theorem newFinite_eq (mk : Entry → Gen.Message) (fuel : Nat) (count : Nat) (auto : Bool) :
    Gen.NewFiniteReplayer fuel (count : Int) auto = .ok (match newFinite count auto with
      | none => (none, some "count must be at least 2")
      | some f => (some (toGenFin mk f), none)) := by
  unfold Gen.NewFiniteReplayer newFinite
  by_cases hc : count < 2
  · have : decide ((count : Int) < 2) = true := by simp; omega
    simp [this, hc, pure, Except.pure]
  · have : decide ((count : Int) < 2) = false := by simp; omega
    simp only [this, Bool.false_eq_true, if_false, hc, bind, Except.bind, makeSlice_natCast]
    cases auto <;> simp [pure, Except.pure, toGenFin, toGenQ, genCur, gSlot]

def gSlotV (mk : Entry → Gen.Message) : Slot → Gen.messageWithTopicsAndExpiry
  | none => { exp := 0, messageWithTopics := { message := none, topics := [] } }
  | some e => { exp := e.exp, messageWithTopics := { message := some (mk e), topics := e.topics } }

theorem gSlotV_none (mk : Entry → Gen.Message) : gSlotV mk none = default := rfl

/-- the translated replayer of a model replayer whose clock reads `now`; the model's `lastGC = none` is the zero Time -/
def toGenValid (mk : Entry → Gen.Message) (now : Int) (v : Valid) : Gen.ValidReplayer :=
  { lastGC := v.lastGC.getD 0, Now := pure now, currentID := genCur v.currentID,
    messages := toGenQ (gSlotV mk) v.messages, ttl := v.ttl, GCInterval := v.gcInterval }

theorem shouldGC_eq (mk : Entry → Gen.Message) (fuel : Nat) (now clock : Int) (v : Valid) :
    Gen.ValidReplayer_shouldGC fuel (toGenValid mk clock v) now = .ok (v.shouldGC now, toGenValid mk clock v) := rfl

theorem toGenValid_messages (mk : Entry → Gen.Message) (clock : Int) (v : Valid) (q : Queue) :
    ({ toGenValid mk clock v with messages := toGenQ (gSlotV mk) q } : Gen.ValidReplayer) =
      toGenValid mk clock { v with messages := q } := rfl

def slotLive (now : Int) : Slot → Bool
  | some e => decide (e.exp > now)
  | none => false

/-- how the translated collection loop ends, for an outcome of the model's -/
def GcAgrees (mk : Entry → Gen.Message) (clock : Int) (v : Valid) (res : QRes Queue)
    (lhs : GoM (Gen.ValidReplayer ⊕ Gen.ValidReplayer)) : Prop :=
  match res with
  | .ok q' => lhs = .ok (.inl (toGenValid mk clock { v with messages := q' }))
  | .panic => ∃ msg, lhs = .error (.panic msg)

/-- `0 < now`: the zero slot of the translated ring has `exp = 0` and has to read as expired, as the model's empty slot does -/
theorem slotLive_gSlotV (mk : Entry → Gen.Message) (now : Int) (hnow : 0 < now) (slot : Slot) :
    decide ((gSlotV mk slot).exp > now) = slotLive now slot := by
  cases slot with
  | none => exact decide_eq_false (by show ¬ (0 : Int) > now; omega)
  | some e => rfl

theorem dequeue_count (q q' : Queue) (h : q.dequeue = .ok q') : q'.count = q.count - 1 := by
  unfold Queue.dequeue at h
  split at h
  · cases h; rfl
  · cases h

theorem GcAgrees.agreesV {mk : Entry → Gen.Message} {clock : Int} {v : Valid} {res : QRes Queue}
    {lhs : GoM (Gen.ValidReplayer ⊕ Gen.ValidReplayer)} (h : GcAgrees mk clock v res lhs) :
    AgreesV (fun q' => Sum.inl (toGenValid mk clock { v with messages := q' })) lhs res := by
  cases res <;> exact h

theorem gcBody_zero (mk : Entry → Gen.Message) (now clock : Int) (v : Valid) (fuel : Nat) (q : Queue) (h : q.count = 0) :
    Gen.ValidReplayer_doGC_loop1 fuel now (toGenValid mk clock { v with messages := q }) =
      .ok (.brk (toGenValid mk clock { v with messages := q })) := by
  unfold Gen.ValidReplayer_doGC_loop1
  have : decide ((toGenValid mk clock { v with messages := q }).messages.count > (0 : Int)) = false :=
    decide_eq_false (by show ¬ (q.count : Int) > 0; rw [h]; exact Int.lt_irrefl 0)
  simp only [this, Bool.false_eq_true, if_false]; rfl

theorem gcBody_pos (mk : Entry → Gen.Message) (now clock : Int) (v : Valid) (fuel : Nat) (q : Queue) (h : 0 < q.count) :
    Gen.ValidReplayer_doGC_loop1 fuel now (toGenValid mk clock { v with messages := q }) =
      idx (q.buf.map (gSlotV mk)) q.head >>= fun e =>
        if decide (e.exp > now) then pure (.brk (toGenValid mk clock { v with messages := q }))
        else Gen.queue_dequeue fuel (toGenQ (gSlotV mk) q) >>= fun q' =>
          pure (.next { toGenValid mk clock { v with messages := q } with messages := q' }) := by
  unfold Gen.ValidReplayer_doGC_loop1
  have : decide ((toGenValid mk clock { v with messages := q }).messages.count > (0 : Int)) = true :=
    decide_eq_true (Int.natCast_pos.mpr h)
  simp only [this, if_true]; rfl

/-- `fuel` is what the body hands to its callees, `F` what the loop itself may use; `doGC_eq` puts `fuel` for both -/
theorem gcLoop_eq (mk : Entry → Gen.Message) (now clock : Int) (hnow : 0 < now) (v : Valid) :
    ∀ (n : Nat) (q : Queue) (fuel F : Nat), n = q.count → n < F →
      GcAgrees mk clock v (Valid.gcLoop n now q)
        (loopM (Gen.ValidReplayer_doGC_loop1 fuel now) F (toGenValid mk clock { v with messages := q })) := by
  intro n
  induction n with
  | zero =>
    intro q fuel F hn hF
    obtain ⟨k, rfl⟩ := Nat.exists_eq_add_one_of_ne_zero (Nat.ne_of_gt hF)
    rw [loopM_brk (gcBody_zero mk now clock v fuel q hn.symm) k]
    exact rfl
  | succ n ih =>
    intro q fuel F hn hF
    obtain ⟨k, rfl⟩ := Nat.exists_eq_add_one_of_ne_zero (Nat.ne_of_gt (Nat.zero_lt_of_lt hF))
    have hcnt : q.count > 0 := hn ▸ Nat.succ_pos n
    rw [loopM_succ, gcBody_pos mk now clock v fuel q hcnt]
    unfold Valid.gcLoop
    rw [if_pos hcnt]
    cases hb : q.buf[q.head]? with
    | none => exact ⟨_, by rw [idx_map_panic (gSlotV mk) q.buf q.head hb]; rfl⟩
    | some slot =>
      rw [idx_map_ok (gSlotV mk) q.buf q.head slot hb, ok_bind, slotLive_gSlotV mk now hnow slot]
      show GcAgrees mk clock v (if slotLive now slot = true then .ok q else
        match q.dequeue with
        | .panic => .panic
        | .ok q' => Valid.gcLoop n now q') _
      cases slotLive now slot with
      | true => exact rfl
      | false =>
        simp only [Bool.false_eq_true, if_false]
        refine (dequeue_eqG (gSlotV mk) (gSlotV_none mk) fuel q hcnt).elim' (fun q' hq => ?_) (fun msg => ⟨msg, rfl⟩)
        exact ih q' fuel k (by rw [dequeue_count q q' hq, ← hn]; rfl) (Nat.lt_of_succ_lt_succ hF)

/-- `if newCap < minCap { newCap = minCap }; resize(newCap)` and what follows (`K`, in the model `K'`): the two places
that resize (`doGC` shrinking, `Put` growing) are this with their own `newCap`. `R` is the agreement to be shown
(`AgreesV …` or `PutAgrees …`): a panic on both sides satisfies it. -/
theorem resizeMin_agrees {β γ : Type} (R : GoM γ → QRes β → Prop) (hp : ∀ msg, R (.error (.panic msg)) .panic)
    (mk : Entry → Gen.Message) (fuel : Nat) (q : Queue) (n : Nat)
    (K : Gen.queue Gen.messageWithTopicsAndExpiry → GoM γ) (K' : Queue → QRes β)
    (hK : ∀ q', R (K (toGenQ (gSlotV mk) q')) (K' q')) :
    R (if decide ((n : Int) < 4) then Gen.queue_resize fuel (toGenQ (gSlotV mk) q) 4 >>= K
        else Gen.queue_resize fuel (toGenQ (gSlotV mk) q) n >>= K)
      (match q.resize (if n < minCap then minCap else n) with
        | .panic => .panic
        | .ok q' => K' q') := by
  have hr := resize_eqG (gSlotV mk) (gSlotV_none mk) fuel q
  by_cases hmin : n < minCap
  · rw [if_pos hmin, if_pos (decide_eq_true (by unfold minCap at hmin; omega))]
    exact (hr minCap).elim hK hp
  · rw [if_neg hmin, if_neg (by rw [decide_eq_true_eq]; unfold minCap at hmin; omega)]
    exact (hr n).elim hK hp

theorem toGenValid_len (mk : Entry → Gen.Message) (clock : Int) (v : Valid) :
    len (toGenValid mk clock v).messages.buf = (v.messages.buf.length : Int) := by
  simp [toGenValid, len]

theorem doGC_eq (mk : Entry → Gen.Message) (now clock : Int) (hnow : 0 < now) (v : Valid) (fuel : Nat)
    (hf : v.messages.count < fuel) :
    AgreesV (toGenValid mk clock) (Gen.ValidReplayer_doGC fuel (toGenValid mk clock v) now) (v.doGC now) := by
  unfold Gen.ValidReplayer_doGC Valid.doGC Valid.doGCq
  refine (gcLoop_eq mk now clock hnow v v.messages.count v.messages fuel fuel rfl hf).agreesV.elim (fun q => ?_)
    (fun msg => ⟨msg, rfl⟩)
  simp only [bind, Except.bind, toGenValid_len, tdiv_nat]
  show AgreesV _ (if decide ((q.count : Int) ≤ ((q.buf.length / 4 : Nat) : Int)) then _ else _) _
  simp only [Int.ofNat_le]
  by_cases hsh : q.count ≤ q.buf.length / 4
  · simp only [hsh, decide_true, if_true]
    exact resizeMin_agrees (AgreesV (toGenValid mk clock)) (fun msg => ⟨msg, rfl⟩) mk fuel q (q.buf.length / 2)
      (fun m => pure { toGenValid mk clock { v with messages := q } with messages := m })
      (fun q' => .ok { v with messages := q' }) (fun _ => rfl)
  · simp only [hsh, decide_false, Bool.false_eq_true, if_false]
    exact rfl

theorem GC_eq (mk : Entry → Gen.Message) (now : Int) (hnow : 0 < now) (v : Valid) (fuel : Nat)
    (hf : v.messages.count < fuel) :
    AgreesV (toGenValid mk now) (Gen.ValidReplayer_GC fuel (toGenValid mk now v)) (v.gc now) := by
  unfold Gen.ValidReplayer_GC Valid.gc
  show AgreesV _ (Gen.ValidReplayer_doGC fuel (toGenValid mk now v) now >>= _) _
  exact (doGC_eq mk now now hnow v fuel hf).elim (fun _ => rfl) (fun msg => ⟨msg, rfl⟩)

/-- the end of `Put`: the entry goes into the ring -/
theorem put_j3_eq (mk : Entry → Gen.Message) (clock now : Int) (v : Valid) (k : Nat) (id' : EventID) (topics : List Bytes)
    (m : Gen.Message)
    (hmk : ∀ id' ex, mk { msg := k, id := id', topics := topics, exp := ex } = { m with ID := genID id' }) (fuel : Nat) :
    AgreesV (fun q' => (some (mk { msg := k, id := id', topics := topics, exp := now + v.ttl }), (none : Option String),
        toGenValid mk clock { v with messages := q' }))
      (Gen.ValidReplayer_Put_j3 fuel (toGenValid mk clock v) (some { m with ID := genID id' }) topics now)
      (v.messages.enqueue { msg := k, id := id', topics := topics, exp := now + v.ttl }) := by
  unfold Gen.ValidReplayer_Put_j3
  rw [← hmk id' (now + v.ttl)]
  show AgreesV _ (Gen.queue_enqueue fuel (toGenQ (gSlotV mk) v.messages)
    (gSlotV mk (some { msg := k, id := id', topics := topics, exp := now + v.ttl })) >>= _) _
  exact (enqueue_eqG (gSlotV mk) fuel v.messages _).elim (fun _ => rfl) (fun msg => ⟨msg, rfl⟩)

theorem put_store (mk : Entry → Gen.Message) (clock now : Int) (v : Valid) (k : Nat) (id' : EventID) (topics : List Bytes)
    (m : Gen.Message)
    (hmk : ∀ id' ex, mk { msg := k, id := id', topics := topics, exp := ex } = { m with ID := genID id' }) (fuel : Nat) :
    PutAgrees mk (toGenValid mk clock)
      (match v.messages.enqueue { msg := k, id := id', topics := topics, exp := now + v.ttl } with
        | .panic => .panic
        | .ok q' => .ok (.ok { msg := k, id := id', topics := topics, exp := now + v.ttl }, { v with messages := q' }))
      (Gen.ValidReplayer_Put_j3 fuel (toGenValid mk clock v) (some { m with ID := genID id' }) topics now) :=
  (put_j3_eq mk clock now v k id' topics m hmk fuel).elim (fun _ => rfl) (fun msg => ⟨msg, rfl⟩)

/-- the second half of `Put` (`putStore`): `ensureID`, grow when full, store with `exp = now + ttl` -/
theorem putStore_eq (mk : Entry → Gen.Message) (clock now : Int) (v : Valid) (k : Nat) (id : EventID) (topics : List Bytes)
    (m : Gen.Message) (hm : m.ID = genID id)
    (hmk : ∀ id' ex, mk { msg := k, id := id', topics := topics, exp := ex } = { m with ID := genID id' })
    (hc : ∀ c, v.currentID = some c → c + 1 < 18446744073709551616) (fuel : Nat)
    (hf : ∀ c, v.currentID = some c → (fmtUint c).length < fuel) :
    PutAgrees mk (toGenValid mk clock) (v.putStore now k id topics)
      (Gen.ValidReplayer_Put_j2 fuel (toGenValid mk clock v) (some m) topics now) := by
  unfold Gen.ValidReplayer_Put_j2 Valid.putStore
  simp only [bind, Except.bind, derefPtr, pure, Except.pure]
  rw [show (toGenValid mk clock v).currentID = genCur v.currentID from rfl, ensureID_eq fuel m id hm v.currentID hc hf]
  cases Model.ensureID id v.currentID with
  | error e => exact rfl
  | ok p =>
    obtain ⟨id', cur'⟩ := p
    simp only [bne_self_eq_false, Bool.false_eq_true, if_false, toGenValid, toGenQ_count, toGenQ_buf, len,
      List.length_map, natCast_beq, Nat.beq_eq_true_eq, ← Int.natCast_mul]
    unfold Valid.growIfFull
    by_cases hfull : v.messages.count = v.messages.buf.length
    · rw [if_pos hfull, if_pos hfull]
      exact resizeMin_agrees (fun lhs res => PutAgrees mk (toGenValid mk clock) res lhs) (fun msg => ⟨msg, rfl⟩)
        mk fuel v.messages (v.messages.buf.length * 2) _ _
        (fun q => put_store mk clock now { v with currentID := cur', messages := q } k id' topics m hmk fuel)
    · rw [if_neg hfull, if_neg hfull]
      exact put_store mk clock now { v with currentID := cur' } k id' topics m hmk fuel

theorem doGC_currentID (v v' : Valid) (now : Int) (h : v.doGC now = .ok v') : v'.currentID = v.currentID := by
  unfold Valid.doGC at h
  cases hq : Valid.doGCq now v.messages with
  | panic => rw [hq] at h; cases h
  | ok q => rw [hq] at h; cases h; rfl

/-- `Put` from the collection on: `if shouldGC { doGC; lastGC = now }`, then `putStore` -/
theorem put_j1_eq (mk : Entry → Gen.Message) (now : Int) (hnow : 0 < now) (v1 : Valid)
    (k : Nat) (id : EventID) (topics : List Bytes) (m : Gen.Message) (hm : m.ID = genID id)
    (hmk : ∀ id' ex, mk { msg := k, id := id', topics := topics, exp := ex } = { m with ID := genID id' })
    (hc : ∀ c, v1.currentID = some c → c + 1 < 18446744073709551616) (fuel : Nat)
    (hf : ∀ c, v1.currentID = some c → (fmtUint c).length < fuel) (hfc : v1.messages.count < fuel) :
    PutAgrees mk (toGenValid mk now)
      (match (if v1.shouldGC now then
          (match v1.doGC now with
          | QRes.panic => (QRes.panic : QRes Valid)
          | QRes.ok v' => QRes.ok { v' with lastGC := some now })
        else QRes.ok v1) with
      | QRes.panic => QRes.panic
      | QRes.ok v2 => v2.putStore now k id topics)
      (Gen.ValidReplayer_Put_j1 fuel (toGenValid mk now v1) (some m) topics now) := by
  unfold Gen.ValidReplayer_Put_j1
  simp only [bind, Except.bind, shouldGC_eq]
  cases v1.shouldGC now with
  | false => exact putStore_eq mk now now v1 k id topics m hm hmk hc fuel hf
  | true =>
    refine (doGC_eq mk now now hnow v1 fuel hfc).elim' (fun v' hv => ?_) (fun msg => ⟨msg, rfl⟩)
    have hcur' : v'.currentID = v1.currentID := doGC_currentID v1 v' now hv
    exact putStore_eq mk now now { v' with lastGC := some now } k id topics m hm hmk
      (by show ∀ c, v'.currentID = some c → _; rw [hcur']; exact hc) fuel
      (by show ∀ c, v'.currentID = some c → _; rw [hcur']; exact hf)

theorem lastGC_zero (mk : Entry → Gen.Message) (clock : Int) (v : Valid) (hl : v.lastGC ≠ some 0) :
    ((toGenValid mk clock v).lastGC == (0 : Int)) = v.lastGC.isNone := by
  unfold toGenValid
  cases h : v.lastGC with
  | none => rfl
  | some t => exact beq_false_of_ne (fun e => hl (by rw [h, ← e]; rfl))

/-- `ValidReplayer.Put` with `v.Now() = now`, an instant after the zero Time: the model's verdict, stored entry and
next state (`lastGC ≠ some 0`: the model's `none` is the only zero Time) -/
theorem validPut_eq (mk : Entry → Gen.Message) (now : Int) (hnow : 0 < now) (v : Valid) (hl : v.lastGC ≠ some 0)
    (k : Nat) (id : EventID) (topics : List Bytes) (m : Gen.Message) (hm : m.ID = genID id)
    (hmk : ∀ id' ex, mk { msg := k, id := id', topics := topics, exp := ex } = { m with ID := genID id' })
    (hc : ∀ c, v.currentID = some c → c + 1 < 18446744073709551616) (fuel : Nat)
    (hf : ∀ c, v.currentID = some c → (fmtUint c).length < fuel) (hfc : v.messages.count < fuel) :
    PutAgrees mk (toGenValid mk now) (v.put now k id topics)
      (Gen.ValidReplayer_Put fuel (toGenValid mk now v) (some m) topics) := by
  unfold Gen.ValidReplayer_Put Valid.put Valid.gcIfDue
  rw [len_eq_zero_iff, lastGC_zero mk now v hl]
  cases topics.isEmpty with
  | true => exact rfl
  | false =>
    cases v.lastGC.isNone with
    | true => exact put_j1_eq mk now hnow { v with lastGC := some now } k id topics m hm hmk hc fuel hf hfc
    | false => exact put_j1_eq mk now hnow v k id topics m hm hmk hc fuel hf hfc

theorem idAgrees_gSlotV (mk : Entry → Gen.Message) (hmk : CarriesID mk) :
    IDAgrees (gSlotV mk) (fun fuel x => Gen.messageWithTopics_ID fuel x.messageWithTopics) := by
  intro fuel x
  have h := idAgrees_gSlot mk hmk fuel x
  cases x <;> exact h

/-- the function literal of `ValidReplayer.Replay`, as translated (`validReplay_unfold` is closed by `rfl`) -/
def validLit (fuel : Nat) (now : Int) : Int → Gen.messageWithTopicsAndExpiry → (Gen.Subscription (List GCall) × Option String) →
    GoM (Bool × (Gen.Subscription (List GCall) × Option String)) :=
  fun _blank m cst_63 => do
    let subscription := cst_63.1
    let err := cst_63.2
    let c_65 ← (if (decide ((m).exp > now)) then do
        let r_64 ← Gen.topicsIntersect fuel (subscription).Topics (m).messageWithTopics.topics
        pure r_64
      else pure false)
    if c_65 then do
      let w_66 := ((subscription).Client).send ((subscription).Client).st (m).messageWithTopics.message
      let subscription := { subscription with Client := { (subscription).Client with st := w_66.2 } }
      let err : (Option String) := w_66.1
      if (err != none) then do
        pure (false, subscription, err)
      else do
        pure (true, subscription, err)
    else do
      pure (true, subscription, err)

theorem validReplay_unfold (fuel : Nat) (v : Gen.ValidReplayer) (subscription : Gen.Subscription (List GCall)) :
    Gen.ValidReplayer_Replay fuel v subscription =
      Gen.findIDInQueue fuel (fun fuel x => Gen.messageWithTopics_ID fuel x.messageWithTopics) v.messages
        subscription.LastEventID (v.currentID != none) >>= fun m =>
        if decide (m.1 < 0) then pure (none, { v with messages := m.2 }, subscription)
        else v.Now >>= fun now =>
          eachFlush fuel m.2 m.1 (validLit fuel now) { v with messages := m.2 } subscription := rfl

theorem validLit_agrees (mk : Entry → Gen.Message) (sub : Sub) (buf : List Slot) (fuel : Nat) (now : Int)
    (hft : TopicsFuel fuel buf sub) :
    YieldAgrees buf SendInv (gSlotV mk) (sendR mk sub) (validLit fuel now)
      (sendStep sub fun e => decide (e.exp > now) && topicsIntersect sub.topics e.topics) := by
  refine sendLit_agrees mk sub buf (gSlotV mk) _ _ (fun i st => ?_) (fun i e st he => ?_)
  · show (if decide ((0 : Int) > now) then Gen.topicsIntersect fuel sub.topics [] else pure false) >>= _ = _
    rw [topicsIntersect_eq fuel sub.topics [] hft.1 (Nat.zero_lt_of_lt hft.1), topicsIntersect_nil]
    cases decide ((0 : Int) > now) <;> rfl
  · show (if decide (e.exp > now) then Gen.topicsIntersect fuel sub.topics e.topics else pure false) >>= _ = _
    rw [topicsIntersect_eq fuel sub.topics e.topics hft.1 (hft.2 e he)]
    cases decide (e.exp > now) <;> rfl

/-- `ValidReplayer.Replay` with `v.Now() = now`: the subscriber sees the model's calls in the model's order — only
entries that expire after `now` —, `Replay` returns the model's error, the replayer is unchanged -/
theorem validReplay_eq (mk : Entry → Gen.Message) (hmk : CarriesID mk) (now : Int) (v : Valid) (sub : Sub) (fuel : Nat)
    (hf : v.messages.tail + v.messages.buf.length + 1 < fuel) (hcount : v.messages.count < 9223372036854775808)
    (hft : TopicsFuel fuel v.messages.buf sub) :
    ReplayAgrees mk sub (toGenValid mk now v) (Valid.replay v now sub)
      (Gen.ValidReplayer_Replay fuel (toGenValid mk now v) (gSub sub [])) := by
  rw [validReplay_unfold, show ((toGenValid mk now v).currentID != none) = v.currentID.isSome from genCur_bne _]
  unfold Valid.replay
  refine (findIDInQueue_eq (gSlotV mk) (fun fuel x => Gen.messageWithTopics_ID fuel x.messageWithTopics)
    (idAgrees_gSlotV mk hmk) v.messages sub.lastEventID v.currentID.isSome fuel hf hcount).elim (fun i => ?_)
    (fun msg => ⟨msg, rfl⟩)
  exact replayFrom_agrees mk sub (gSlotV mk) (validLit fuel now) _ v.messages
    (validLit_agrees mk sub v.messages.buf fuel now hft) (toGenValid mk now v) fuel hf i

end GoSSE.GenEquiv
