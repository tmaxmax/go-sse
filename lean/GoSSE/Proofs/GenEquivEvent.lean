import GoSSE.Proofs.GenEquivUnmarshal
import GoSSE.Proofs.ClientRead
import GoSSE.Gen.Event
/-!
# event.go's `read` as translated computes the model's `readLoop` / `implRun`

`GoSSE/Gen/Event.lean` holds `read` as translated from /repo's event.go: an iterator (`func(yield func(Event, error) bool)`)
with a local function literal (`doYield`), a loop whose condition advances the parser, the `switch` over the field
names with its `break`s, the retry checks, and the end-of-stream handling. The parser it reads from is an interface
(`ParserI`); here it is instantiated with the hand-written model of `parser.Parser` (`parserI`), the consumer with one
that records what it is given and stops at its `k`-th event (`yieldOf`, `onRetryOf`).
-/
namespace GoSSE.GenEquiv
open GoSSE GoSSE.GoRT GoSSE.Spec GoSSE.Model GoSSE.Proofs GoSSE.Proofs.ClientRead

def perrStr : PErr → Option String
  | .none => none
  | .eof => some "io.EOF"
  | .unexpectedEOF => some "parser.ErrUnexpectedEOF"
  | .read => some "READ"
  | .tooLong => some "TOOLONG"

/-- the model's parser as the field source of the translated `read` -/
def parserI (p : Model.Parser) : ParserI Gen.Field Model.Parser :=
  { st := p,
    next := fun p f =>
      match p.next (p.sc.src.size + p.sc.data.length + 4) with
      | (some fld, p') => (true, fieldOf fld, p')
      | (none, p') => (false, f, p'),
    err := fun p => perrStr p.err }

/-- the consumer: what it was given so far and the error it was handed at the end -/
structure Cons where
  outs : List Out := []
  err : Option String := none

/-- `yield`: an error is noted; an event is recorded, and the consumer stops at its `stopAt`-th -/
def yieldOf (stopAt : Option Nat) : Gen.Event → Option String → Cons → GoM (Bool × Cons) := fun ev err st =>
  if err.isSome then pure (true, { st with err := err })
  else
    let outs := st.outs ++ [.event { lastEventID := ev.LastEventID, type := ev.Type', data := ev.Data }]
    pure (!stopped stopAt outs, { st with outs := outs })

/-- `onRetry`: a Connection records the value, `Read` passes nil -/
def onRetryOf (conn : Bool) : Option (Int → Cons → GoM Cons) :=
  if conn then some (fun n st => pure { st with outs := st.outs ++ [.retry n.toNat] }) else none

theorem stopped_retry (stopAt : Option Nat) (outs : List Out) (k : Nat) :
    stopped stopAt (outs ++ [.retry k]) = stopped stopAt outs := by
  unfold stopped countEvents
  cases stopAt <;> simp [List.filter_append]

/-- what the local function literal `doYield` has to do (proved of the literal in `read` below) -/
def DoYieldSpec (stopAt : Option Nat)
    (dy : Bytes → Bytes → Bytes → Cons → GoM (Bool × Cons)) : Prop :=
  ∀ (sb lid typ : Bytes) (outs : List Out),
    dy sb lid typ { outs := outs } =
      .ok (!stopped stopAt (outs ++ [.event { lastEventID := lid, type := typ, data := sb.dropLast }]),
           { outs := outs ++ [.event { lastEventID := lid, type := typ, data := sb.dropLast }] })

/-- the translated loop's state for a state of the model's `readLoop` -/
def rstate (p : Model.Parser) (st : RState) (f : Gen.Field) (outs : List Out) :
    Bytes × ParserI Gen.Field Model.Parser × Bytes × Bytes × Bool × Gen.Field × Cons :=
  (st.lastID, parserI p, st.typ, st.sb, st.dirty, f, { outs := outs })

/-- how the translated loop ends, for an outcome of the model's `readLoop` -/
def RLoopAgrees (res : Model.Parser × RState × List Out × Bool)
    (lhs : GoM ((Bytes × ParserI Gen.Field Model.Parser × Bytes × Bytes × Bool × Gen.Field × Cons) ⊕ Cons)) : Prop :=
  if res.2.2.2 = true then lhs = .ok (.inr { outs := res.2.2.1 })
  else ∃ f', lhs = .ok (.inl (rstate res.1 res.2.1 f' res.2.2.1))

theorem parserI_next_some (p p' : Model.Parser) (fld : Model.Field) (f : Gen.Field)
    (h : p.next (p.sc.src.size + p.sc.data.length + 4) = (some fld, p')) :
    (parserI p).next (parserI p).st f = (true, fieldOf fld, p') := by
  show (match p.next (p.sc.src.size + p.sc.data.length + 4) with
    | (some fld, p') => (true, fieldOf fld, p')
    | (none, p') => (false, f, p')) = _
  rw [h]

theorem parserI_next_none (p p' : Model.Parser) (f : Gen.Field)
    (h : p.next (p.sc.src.size + p.sc.data.length + 4) = (none, p')) :
    (parserI p).next (parserI p).st f = (false, f, p') := by
  show (match p.next (p.sc.src.size + p.sc.data.length + 4) with
    | (some fld, p') => (true, fieldOf fld, p')
    | (none, p') => (false, f, p')) = _
  rw [h]

theorem parserI_st (p p' : Model.Parser) : ({ parserI p with st := p' } : ParserI Gen.Field Model.Parser) = parserI p' := rfl

theorem onRetry_isSome (conn : Bool) : (onRetryOf conn).isSome = conn := by
  cases conn <;> rfl

theorem stopped_append (stopAt : Option Nat) (outs l : List Out) (hns : stopped stopAt outs = false)
    (h : (!l.isEmpty && stopped stopAt (outs ++ l)) = false) : stopped stopAt (outs ++ l) = false := by
  cases l with
  | nil => rw [List.append_nil]; exact hns
  | cons o l => simpa using h

/-- an iteration whose `p.Next(&f)` is false leaves the loop -/
theorem read_loop1_none (conn : Bool) (fuel : Nat) (dy : Bytes → Bytes → Bytes → Cons → GoM (Bool × Cons))
    (p p' : Model.Parser) (st : RState) (outs : List Out) (f : Gen.Field)
    (hnx : (parserI p).next (parserI p).st f = (false, f, p')) :
    Gen.read_loop1 fuel (onRetryOf conn) dy (rstate p st f outs) = .ok (Step.brk (rstate p' st f outs)) := by
  unfold Gen.read_loop1
  extract_lets +onlyGivenNames _ _ _ _ _ _ _ nx
  have h : nx = (false, f, p') := hnx
  clear_value nx
  subst h
  rfl

/-- a field for which `readField` yields nothing cannot stop the consumer -/
theorem rstep_eq (stopAt : Option Nat) (outs : List Out) (p' : Model.Parser) (g : Gen.Field) (r : RState × List Out) :
    (if (!r.2.isEmpty && stopped stopAt (outs ++ r.2)) = true then Step.ret ({ outs := outs ++ r.2 } : Cons)
      else Step.next (rstate p' r.1 g (outs ++ r.2))) =
    if r.2.isEmpty = true then Step.next (rstate p' r.1 g outs)
    else if stopped stopAt (outs ++ r.2) = true then Step.ret { outs := outs ++ r.2 }
    else Step.next (rstate p' r.1 g (outs ++ r.2)) := by
  obtain ⟨st', l⟩ := r
  cases l with
  | nil => rw [List.append_nil]; rfl
  | cons o l => rfl

/-- an iteration that got a field: the `switch` of `read` is the model's `readField`, for every kind of field; the
iteration returns when the consumer stops at the event dispatched -/
theorem read_loop1_some (conn : Bool) (stopAt : Option Nat) (fuel : Nat)
    (dy : Bytes → Bytes → Bytes → Cons → GoM (Bool × Cons)) (hdy : DoYieldSpec stopAt dy)
    (p p' : Model.Parser) (st : RState) (outs : List Out) (f : Gen.Field) (fld : Model.Field)
    (hns : stopped stopAt outs = false)
    (hnx : (parserI p).next (parserI p).st f = (true, fieldOf fld, p')) :
    Gen.read_loop1 fuel (onRetryOf conn) dy (rstate p st f outs) =
      .ok (if (!(readField conn st fld).2.isEmpty && stopped stopAt (outs ++ (readField conn st fld).2)) = true
        then Step.ret { outs := outs ++ (readField conn st fld).2 }
        else Step.next (rstate p' (readField conn st fld).1 (fieldOf fld) (outs ++ (readField conn st fld).2))) := by
  obtain ⟨name, v⟩ := fld
  obtain ⟨lid, typ, sb, dirty⟩ := st
  rw [rstep_eq]
  unfold rstate
  rw [← parserI_st p p']
  unfold Gen.read_loop1
  extract_lets +onlyGivenNames _ _ _ _ _ _ _ nx _ _ tag
  have h : nx = (true, ⟨nameBytes name, v⟩, p') := hnx
  clear_value nx
  subst h
  have ht : tag = nameBytes name := rfl
  clear_value tag
  subst ht
  rw [nameBytes_beq_data, nameBytes_beq_event, nameBytes_beq_id, nameBytes_beq_retry]
  cases name with
  | data | event => rfl
  | id =>
    show (if (stringsIndexByte v 0 != -1) = true then _ else _) = _
    rw [indexByte_contains]
    unfold readField
    cases v.contains 0 <;> rfl
  | retry =>
    show (if (stringsIndexOutside v 48 57 != -1) = true then _
      else if ((strconvParseInt v).2 != none) = true then _
      else if (decide ((strconvParseInt v).1 ≥ 0) && (onRetryOf conn).isSome) = true then _ else _) = _
    unfold readField
    rw [(indexOutside_spec v).1, onRetry_isSome]
    cases hdig : v.all isDigit with
    | false => rfl
    | true =>
      have hpi := parseInt_digits v hdig
      cases hp : parseInt v with
      | none =>
        rw [hp] at hpi
        rw [bne_iff_ne.mpr hpi]
        rfl
      | some n =>
        rw [hp] at hpi
        rw [hpi]
        simp only []
        cases hc : (decide (n ≥ 0) && conn) with
        | false => rfl
        | true =>
          -- the connection's `onRetry` records the value; a retry value never stops the consumer
          obtain rfl : conn = true := (Bool.and_eq_true _ _ ▸ hc).2
          show _ = Except.ok (if _ then _ else if stopped stopAt (outs ++ [Out.retry n.toNat]) = true then _ else _)
          rw [stopped_retry, hns]
          rfl
  | comment | none =>
    cases dirty with
    | false => rfl
    | true =>
      show (dy sb lid typ { outs := outs } >>= _) =
        Except.ok (if _ then _ else
          if stopped stopAt (outs ++ [Out.event { lastEventID := lid, type := typ, data := sb.dropLast }]) = true then _ else _)
      rw [hdy]
      cases stopped stopAt (outs ++ [Out.event { lastEventID := lid, type := typ, data := sb.dropLast }]) <;> rfl
/-- one iteration of the translated loop that got a field, against the model's: both stop, or both go on (`ih`) -/
theorem rloop_some (conn : Bool) (stopAt : Option Nat) (fuel : Nat)
    (dy : Bytes → Bytes → Bytes → Cons → GoM (Bool × Cons)) (hdy : DoYieldSpec stopAt dy) (n : Nat)
    (ih : ∀ (p : Model.Parser) (st : RState) (outs : List Out) (f : Gen.Field) (F : Nat),
      SInv p.sc → M3 p + 1 ≤ n → n < F → stopped stopAt outs = false →
      RLoopAgrees (readLoop conn stopAt n p st outs)
        (loopM (Gen.read_loop1 fuel (onRetryOf conn) dy) F (rstate p st f outs)))
    (p p' : Model.Parser) (st : RState) (outs : List Out) (f : Gen.Field) (fld : Model.Field) (k : Nat)
    (hI' : SInv p'.sc) (hM' : M3 p' + 1 ≤ n) (hF : n + 1 < k + 1) (hns : stopped stopAt outs = false)
    (hnx : (parserI p).next (parserI p).st f = (true, fieldOf fld, p')) :
    RLoopAgrees
      (if (!(readField conn st fld).2.isEmpty && stopped stopAt (outs ++ (readField conn st fld).2)) = true then
        (p', (readField conn st fld).1, outs ++ (readField conn st fld).2, true)
       else readLoop conn stopAt n p' (readField conn st fld).1 (outs ++ (readField conn st fld).2))
      (loopM (Gen.read_loop1 fuel (onRetryOf conn) dy) (k + 1) (rstate p st f outs)) := by
  have hstep := read_loop1_some conn stopAt fuel dy hdy p p' st outs f fld hns hnx
  cases hc : (!(readField conn st fld).2.isEmpty && stopped stopAt (outs ++ (readField conn st fld).2)) with
  | true =>
    rw [hc, if_pos rfl] at hstep
    rw [if_pos rfl, loopM_ret hstep k]
    unfold RLoopAgrees
    rw [if_pos rfl]
  | false =>
    rw [hc, if_neg Bool.false_ne_true] at hstep
    rw [if_neg Bool.false_ne_true, loopM_next hstep k]
    exact ih p' _ _ (fieldOf fld) k hI' hM' (by omega) (stopped_append stopAt outs _ hns hc)

set_option linter.unusedVariables false in
/-- the `default:` case of the switch (a blank line ends the event; comments never reach `read`): dispatch if dirty -/
theorem rloop_dispatch (conn : Bool) (stopAt : Option Nat) (fuel : Nat)
    (dy : Bytes → Bytes → Bytes → Cons → GoM (Bool × Cons)) (hdy : DoYieldSpec stopAt dy) (n : Nat)
    (ih : ∀ (p : Model.Parser) (st : RState) (outs : List Out) (f : Gen.Field) (F : Nat),
      SInv p.sc → M3 p + 1 ≤ n → n < F → stopped stopAt outs = false →
      RLoopAgrees (readLoop conn stopAt n p st outs)
        (loopM (Gen.read_loop1 fuel (onRetryOf conn) dy) F (rstate p st f outs)))
    (p p' : Model.Parser) (st : RState) (outs : List Out) (f : Gen.Field) (fld : Model.Field) (k : Nat)
    (hI' : SInv p'.sc) (hM' : M3 p' + 1 ≤ n) (hF : n + 1 < k + 1) (hns : stopped stopAt outs = false)
    (hnx : (parserI p).next (parserI p).st f = (true, fieldOf fld, p'))
    (hname : fld.name = .comment ∨ fld.name = .none) :
    RLoopAgrees
      (if (!(readField conn st fld).2.isEmpty && stopped stopAt (outs ++ (readField conn st fld).2)) = true then
        (p', (readField conn st fld).1, outs ++ (readField conn st fld).2, true)
       else readLoop conn stopAt n p' (readField conn st fld).1 (outs ++ (readField conn st fld).2))
      (loopM (Gen.read_loop1 fuel (onRetryOf conn) dy) (k + 1) (rstate p st f outs)) :=
  rloop_some conn stopAt fuel dy hdy n ih p p' st outs f fld k hI' hM' hF hns hnx

theorem rloop_eq (conn : Bool) (stopAt : Option Nat) (fuel : Nat)
    (dy : Bytes → Bytes → Bytes → Cons → GoM (Bool × Cons)) (hdy : DoYieldSpec stopAt dy) :
    ∀ (n : Nat) (p : Model.Parser) (st : RState) (outs : List Out) (f : Gen.Field) (F : Nat),
      SInv p.sc → M3 p + 1 ≤ n → n < F → stopped stopAt outs = false →
      RLoopAgrees (readLoop conn stopAt n p st outs)
        (loopM (Gen.read_loop1 fuel (onRetryOf conn) dy) F (rstate p st f outs)) := by
  intro n
  induction n with
  | zero => intro p st outs f F _ h; omega
  | succ n ih =>
    intro p st outs f F hI hM hF hns
    obtain ⟨k, rfl⟩ : ∃ k, F = k + 1 := ⟨F - 1, by omega⟩
    have hnp := next_spec (p.sc.src.size + p.sc.data.length + 4) p hI (by simp only [M]; omega)
    unfold readLoop
    cases hp : p.next (p.sc.src.size + p.sc.data.length + 4) with
    | mk o p' =>
      rw [hp] at hnp
      obtain ⟨hI', _, _, hdec⟩ := hnp
      cases o with
      | none =>
        rw [loopM_brk (read_loop1_none conn fuel dy p p' st outs f (parserI_next_none p p' f hp)) k]
        exact ⟨f, rfl⟩
      | some fld =>
        have hM' : M3 p' + 1 ≤ n := by have h0 : M3 p' + 1 ≤ M3 p := hdec rfl; omega
        exact rloop_some conn stopAt fuel dy hdy n ih p p' st outs f fld k hI' hM' hF hns
          (parserI_next_some p p' fld f hp)

/-! ## `read` -/

/-- the function literal `doYield` of `read`, as translated (`read_unfold` below is closed by `rfl`) -/
def dyLit {κ : Type} (yield : Gen.Event → Option String → κ → GoM (Bool × κ)) :
    Bytes → Bytes → Bytes → κ → GoM (Bool × κ) :=
  fun data lastEventID typ cst_5 => do
    let acc := cst_5
    if (data != ([] : Bytes)) then do
      let s_6 ← sliceTo data ((len data) - (1 : Int))
      let data : Bytes := s_6
      let y_7 ← yield ({ LastEventID := lastEventID, Type' := typ, Data := data } : Gen.Event) none acc
      let acc := y_7.2
      pure (y_7.1, acc)
    else do
      let y_8 ← yield ({ LastEventID := lastEventID, Type' := typ, Data := data } : Gen.Event) none acc
      let acc := y_8.2
      pure (y_8.1, acc)

theorem read_unfold {π κ : Type} (fuel : Nat) (pf : GoM (ParserI Gen.Field π)) (lastEventID : Bytes)
    (onRetry : Option (Int → κ → GoM κ)) (ignoreEOF : Bool) (yield : Gen.Event → Option String → κ → GoM (Bool × κ)) (acc : κ) :
    Gen.read fuel pf lastEventID onRetry ignoreEOF yield acc = (do
      let th_1 ← pf
      let p : (ParserI Gen.Field π) := th_1
      let typ : Bytes := ([] : Bytes)
      let sb : Bytes := ([] : Bytes)
      let dirty : Bool := false
      let f : Gen.Field := ({ Name := ([] : Bytes), Value := ([] : Bytes) } : Gen.Field)
      let l_14 ← loopM (Gen.read_loop1 fuel onRetry (dyLit yield)) fuel (lastEventID, p, typ, sb, dirty, f, acc)
      match l_14 with
      | .inr r => do
        pure r
      | .inl st_9 => do
        let lastEventID := st_9.1
        let p := st_9.2.1
        let typ := st_9.2.2.1
        let sb := st_9.2.2.2.1
        let dirty := st_9.2.2.2.2.1
        let acc := st_9.2.2.2.2.2.2
        let err_1 : (Option String) := ((p).err (p).st)
        let isEOF : Bool := (err_1 == (some "io.EOF"))
        if (dirty && isEOF) then do
          let cl_15 ← dyLit yield sb lastEventID typ acc
          let acc : κ := (cl_15.2)
          if (!cl_15.1) then do
            pure acc
          else do
            if ((err_1 != none) && (!(ignoreEOF && isEOF))) then do
              let y_16 ← yield ({ LastEventID := ([] : Bytes), Type' := ([] : Bytes), Data := ([] : Bytes) } : Gen.Event) err_1 acc
              let acc := y_16.2
              pure acc
            else do
              pure acc
        else do
          if ((err_1 != none) && (!(ignoreEOF && isEOF))) then do
            let y_17 ← yield ({ LastEventID := ([] : Bytes), Type' := ([] : Bytes), Data := ([] : Bytes) } : Gen.Event) err_1 acc
            let acc := y_17.2
            pure acc
          else do
            pure acc) := rfl

theorem dyLit_spec (stopAt : Option Nat) : DoYieldSpec stopAt (dyLit (yieldOf stopAt)) := by
  intro sb lid typ outs
  unfold dyLit
  cases sb with
  | nil => simp [yieldOf, bind, Except.bind, pure, Except.pure]
  | cons c t =>
    have hsl : sliceTo (c :: t) (len (c :: t) - 1) = .ok ((c :: t).dropLast) := by
      unfold sliceTo len
      have : (0 : Int) ≤ (((c :: t).length : Nat) : Int) - 1 ∧ (((c :: t).length : Nat) : Int) - 1 ≤ ((c :: t).length : Nat) := by
        simp; omega
      simp only [this, and_self, if_true, pure, Except.pure]
      rw [List.dropLast_eq_take]
      congr 2
      simp
    simp [hsl, yieldOf, bind, Except.bind, pure, Except.pure]

/-- the model's run from a given parser: `implRun` without the construction of the scanner and the count of bytes
pulled (`implRun_runFrom`) -/
def runFrom (conn : Bool) (stopAt : Option Nat) (lastID : Bytes) (p0 : Model.Parser) (n : Nat) : List Out × PErr :=
  let r := readLoop conn stopAt n p0 { lastID := lastID } []
  if r.2.2.2 then (r.2.2.1, .none) else
  let e := r.1.err
  if r.2.1.dirty && e == .eof then
    let outs := r.2.2.1 ++ [.event (doYield r.2.1)]
    if stopped stopAt outs then (outs, .none)
    else (outs, if !conn then .none else e)
  else (r.2.2.1, if e == .eof && !conn then .none else e)

theorem implRun_runFrom (conn : Bool) (lastID : Bytes) (src : Source) (cfg : Option (Nat × Int)) (stopAt : Option Nat) :
    ((implRun conn lastID src cfg stopAt).1, (implRun conn lastID src cfg stopAt).2.1) =
      runFrom conn stopAt lastID { sc := mkScanner src cfg } (src.size + 4) := by
  unfold implRun runFrom
  simp only []
  generalize readLoop conn stopAt (src.size + 4) { sc := mkScanner src cfg } { lastID := lastID } [] = r
  obtain ⟨p, st, outs, fl⟩ := r
  cases fl with
  | true => rfl
  | false =>
    simp only [Bool.false_eq_true, if_false]
    cases (st.dirty && p.err == .eof) with
    | false => rfl
    | true =>
      simp only [if_true]
      cases stopped stopAt (outs ++ [.event (doYield st)]) <;> rfl

theorem perrStr_eof (e : PErr) : (perrStr e == some "io.EOF") = (e == .eof) := by
  cases e <;> rfl

theorem perrStr_none (e : PErr) : (perrStr e != none) = (e != .none) := by
  cases e <;> rfl

/-- the end of `read`: the parser's error is handed to the consumer, a clean end of a non-connection read excepted -/
theorem yield_err (stopAt : Option Nat) (conn : Bool) (e : PErr) (ev : Gen.Event) (o : List Out) :
    (if (e != PErr.none && !(!conn && e == PErr.eof)) = true then
      yieldOf stopAt ev (perrStr e) { outs := o } >>= fun v => pure v.snd
    else pure { outs := o }) =
      Except.ok { outs := o, err := perrStr (if (e == PErr.eof && !conn) = true then PErr.none else e) } := by
  cases e <;> cases conn <;> rfl

/-- event.go's `read` as translated, reading from the model's parser and delivering to the recording consumer: the
consumer ends up with exactly the events and retry values of the model's run and is handed the model's final error
(none when the run ends cleanly for `Read`, or when the consumer stopped it); no panic, the loop ends. `n` is the
model's fuel (any value above the parser's measure), `fuel` the translated loop's. -/
theorem read_eq (conn : Bool) (stopAt : Option Nat) (lastID : Bytes) (p0 : Model.Parser) (n fuel : Nat)
    (hI : SInv p0.sc) (hM : M3 p0 + 1 ≤ n) (hF : n < fuel) (hs : stopped stopAt [] = false) :
    Gen.read fuel (pure (parserI p0)) lastID (onRetryOf conn) (!conn) (yieldOf stopAt) {} =
      .ok { outs := (runFrom conn stopAt lastID p0 n).1, err := perrStr (runFrom conn stopAt lastID p0 n).2 } := by
  rw [read_unfold]
  simp only [bind, Except.bind, pure, Except.pure]
  have hl := rloop_eq conn stopAt fuel (dyLit (yieldOf stopAt)) (dyLit_spec stopAt) n p0 { lastID := lastID } []
    ({ Name := [], Value := [] } : Gen.Field) fuel hI hM hF hs
  unfold rstate at hl
  unfold runFrom
  generalize hr : readLoop conn stopAt n p0 { lastID := lastID } [] = r at hl
  obtain ⟨p', st', outs', fl⟩ := r
  unfold RLoopAgrees at hl
  cases fl with
  | true =>
    simp only [if_true] at hl
    rw [hl]
    simp [perrStr]
  | false =>
    simp only [Bool.false_eq_true, if_false] at hl
    obtain ⟨f', hl'⟩ := hl
    rw [hl']
    unfold rstate
    have herr : (parserI p').err (parserI p').st = perrStr p'.err := rfl
    simp only [herr, perrStr_eof, perrStr_none, Bool.false_eq_true, if_false]
    have hy := dyLit_spec stopAt st'.sb st'.lastID st'.typ outs'
    have hev : doYield st' = { lastEventID := st'.lastID, type := st'.typ, data := st'.sb.dropLast } := rfl
    by_cases hde : (st'.dirty && p'.err == .eof) = true
    · simp only [hde, if_true, hy, hev]
      have heof : p'.err = .eof := by
        simp only [Bool.and_eq_true, beq_iff_eq] at hde; exact hde.2
      by_cases hst : stopped stopAt (outs' ++ [.event { lastEventID := st'.lastID, type := st'.typ, data := st'.sb.dropLast }]) = true
      · simp [hst, perrStr]
      · have hst' : stopped stopAt (outs' ++ [.event { lastEventID := st'.lastID, type := st'.typ, data := st'.sb.dropLast }]) = false := by
          simpa using hst
        simp only [hst', heof, Bool.not_false, Bool.not_true, Bool.false_eq_true, if_false]
        exact yield_err stopAt conn .eof ⟨[], [], []⟩ (outs' ++ [.event (doYield st')])
    · have hde' : (st'.dirty && p'.err == .eof) = false := by simpa using hde
      simp only [hde', Bool.false_eq_true, if_false]
      exact yield_err stopAt conn p'.err ⟨[], [], []⟩ outs'

end GoSSE.GenEquiv
