import GoSSE.Proofs.GenEquiv
import GoSSE.Proofs.ParserScan
import GoSSE.Gen.Bufio
/-!
# `bufio.Scanner.Scan`, as translated from the toolchain's own source, is the model's `Scanner.scan`

`GoSSE/Gen/Bufio.lean` is `(*Scanner).Scan` (with `advance`, `setErr`, `Err`) of `$GOROOT/src/bufio/scan.go`, translated
on every run. For a scanner whose split function is go-sse's (translated) `splitFunc` and whose reader never returns
`0, nil`, one call of it returns what the model's `scan` returns and leaves the same scanner state (`Rel`); in particular
it never panics and never runs out of fuel.
-/
namespace GoSSE.GenEquiv
open GoSSE GoSSE.GoRT GoSSE.Model GoSSE.Proofs

/-- the sticky error of the translated scanner for the model's -/
def errOf : Option SErr → Option String
  | none => none
  | some .eof => some "io.EOF"
  | some .read => some "verif.errRead"
  | some .tooLong => some "ErrTooLong"

def toReader (s : Source) : Reader := { chunks := s.chunks, endErr := s.endErr, errWithLast := s.errWithLast }

/-- go-sse's split function, as the `split` field of the translated scanner -/
def genSplit (F : Nat) : Bytes → Bool → GoM (Int × Option Bytes × Option String) :=
  fun d e => Gen.splitFunc F d e

/-- the translated scanner `g` stands for the model scanner `m` -/
structure Rel (F : Nat) (g : Gen.Scanner) (m : Scanner) : Prop where
  split : g.split = genSplit F
  done : g.done = false
  start : g.start = (m.start : Int)
  end' : g.end' = ((m.start + m.data.length : Nat) : Int)
  len : g.buf.length = m.bufLen
  data : (g.buf.take (m.start + m.data.length)).drop m.start = m.data
  maxTok : g.maxTokenSize = m.maxTok
  r : g.r = toReader m.src
  err : g.err = errOf m.err

/-- side conditions: sizes below the fuel of the split function and below `maxInt/2`; the reader contract -/
structure Bnd (F : Nat) (m : Scanner) : Prop where
  fits : m.start + m.data.length ≤ m.bufLen
  lenF : m.bufLen < F
  maxF : m.maxTok < (F : Int)
  big : F ≤ 4611686018427387903
  nonempty : ∀ c ∈ m.src.chunks, c ≠ []

theorem errOf_none (e : Option SErr) : (errOf e == none) = !e.isSome := by
  cases e with
  | none => rfl
  | some x => cases x <;> rfl

theorem errOf_ne_none (e : Option SErr) : (errOf e != none) = e.isSome := by
  cases e with
  | none => rfl
  | some x => cases x <;> rfl

theorem errOf_endE (b : Bool) :
    errOf (some (if b then SErr.read else SErr.eof)) = some (if b then "verif.errRead" else "io.EOF") := by
  cases b <;> rfl

theorem readerRead_eq (src : Source) (free : Nat) :
    readerRead (toReader src) (free : Int) =
      .ok ((src.read free).1, errOf (src.read free).2.1, toReader (src.read free).2.2) := by
  obtain ⟨chunks, endErr, ewl⟩ := src
  unfold readerRead Source.read toReader
  rw [if_neg (Int.not_lt.mpr (Int.natCast_nonneg free)), Int.toNat_natCast]
  cases chunks with
  | nil => dsimp only; rw [errOf_endE]; rfl
  | cons c rest =>
    dsimp only
    by_cases hfit : c.length ≤ free
    · rw [if_pos hfit, if_pos hfit]
      by_cases hlast : (rest.isEmpty && ewl) = true
      · rw [if_pos hlast, if_pos hlast, errOf_endE]; rfl
      · rw [if_neg hlast, if_neg hlast]; rfl
    · rw [if_neg hfit, if_neg hfit]; rfl

theorem setErr_none (F : Nat) (g : Gen.Scanner) (e : Option String) (h : g.err = none) :
    Gen.Scanner_setErr F g e = .ok { g with err := e } := by
  unfold Gen.Scanner_setErr
  simp [h, pure, Except.pure]

/-- the new buffer size, as the translated code computes it over `int` -/
theorem growSize_cast (b : Nat) (mt : Int) (h : (b : Int) < mt) :
    (if (b : Int) * 2 == 0 then min 4096 mt else min ((b : Int) * 2) mt) =
      ((min (if b * 2 == 0 then startBufSize else b * 2) mt.toNat : Nat) : Int) := by
  obtain ⟨n, rfl⟩ : ∃ n : Nat, mt = n := ⟨mt.toNat, (Int.toNat_of_nonneg (by omega)).symm⟩
  have e : ((b : Int) * 2 == 0) = (b * 2 == 0) := natCast_beq (b * 2) 0
  rw [Int.toNat_natCast, e]
  cases b * 2 == 0
  · exact (natCast_min (b * 2) n).symm
  · exact (natCast_min 4096 n).symm

theorem Rel.lenBuf {F g m} (h : Rel F g m) : GoRT.len g.buf = (m.bufLen : Int) := congrArg Nat.cast h.len

theorem Rel.pending {F g m} (h : Rel F g m) : g.end' - g.start = (m.data.length : Int) := by
  rw [h.end', h.start]; omega

theorem Rel.slice {F g m} (h : Rel F g m) (hfit : m.start + m.data.length ≤ m.bufLen) :
    GoRT.slice g.buf g.start g.end' = .ok m.data := by
  rw [h.start, h.end', slice_ok g.buf _ _ (Nat.le_add_right _ _) (by rw [h.len]; exact hfit), h.data]

theorem Rel.errNone {F g m} (h : Rel F g m) (herr : m.err = none) : g.err = none := by rw [h.err, herr]; rfl

theorem Rel.hasWork {F g m} (h : Rel F g m) :
    (decide (g.end' > g.start) || (g.err != none)) = (!m.data.isEmpty || m.err.isSome) := by
  rw [h.end', h.start, h.err, errOf_ne_none]
  cases hd : m.data with
  | nil => simp
  | cons b t => simp; omega

theorem Rel.errSome {F g m} (h : Rel F g m) : (g.err != none) = m.err.isSome := by rw [h.err, errOf_ne_none]

theorem Rel.isFull {F g m} (h : Rel F g m) : (g.end' == GoRT.len g.buf) = (m.start + m.data.length == m.bufLen) := by
  rw [h.end', h.lenBuf, natCast_beq]

/-- `token`, `empties` and `scanCalled` are not read by `Rel` -/
theorem Rel.ghost {F g m} (h : Rel F g m) (tok : Option Bytes) (emp : Int) (sc : Bool) :
    Rel F { g with token := tok, empties := emp, scanCalled := sc } m :=
  ⟨h.split, h.done, h.start, h.end', h.len, h.data, h.maxTok, h.r, h.err⟩

theorem drop_window (s adv : Nat) (d : Bytes) (h : adv ≤ d.length) : s + adv + (d.drop adv).length = s + d.length := by
  rw [List.length_drop, Nat.add_assoc, Nat.add_sub_of_le h]

theorem Rel.advance {F g m} (h : Rel F g m) (adv : Nat) (hadv : adv ≤ m.data.length) :
    Rel F { g with start := g.start + (adv : Int) } { m with start := m.start + adv, data := m.data.drop adv } := by
  have e := drop_window m.start adv m.data hadv
  refine ⟨h.split, h.done, ?_, ?_, h.len, ?_, h.maxTok, h.r, h.err⟩
  · show g.start + (adv : Int) = ((m.start + adv : Nat) : Int); rw [h.start, Int.natCast_add]
  · show g.end' = (((m.start + adv) + (m.data.drop adv).length : Nat) : Int); rw [e]; exact h.end'
  · show (g.buf.take ((m.start + adv) + (m.data.drop adv).length)).drop (m.start + adv) = m.data.drop adv
    rw [e, ← List.drop_drop, h.data]

theorem Rel.clear {F g m} (h : Rel F g m) :
    Rel F { g with start := 0, end' := 0 } { m with start := 0, data := [] } :=
  ⟨h.split, h.done, rfl, rfl, h.len, by show (g.buf.take (0 + 0)).drop 0 = []; rfl, h.maxTok, h.r, h.err⟩

theorem Rel.setErr {F g m} (h : Rel F g m) (e : SErr) : Rel F { g with err := errOf (some e) } { m with err := some e } :=
  ⟨h.split, h.done, h.start, h.end', h.len, h.data, h.maxTok, h.r, rfl⟩

/-- the translated scanner after the buffer was replaced by a new one holding the pending data at its start -/
def afterMove (g : Gen.Scanner) (buf : Bytes) (n : Nat) : Gen.Scanner :=
  { g with buf := buf, end' := (n : Int), start := 0 }

theorem Rel.move {F g m} (h : Rel F g m) (dst : Bytes) (n : Nat) (hn : dst.length = n) (hd : m.data.length ≤ n) :
    Rel F (afterMove g (m.data ++ dst.drop m.data.length) m.data.length) { m with bufLen := n, start := 0 } := by
  refine ⟨h.split, h.done, rfl, ?_, ?_, ?_, h.maxTok, h.r, h.err⟩
  · show ((m.data.length : Nat) : Int) = ((0 + m.data.length : Nat) : Int); rw [Nat.zero_add]
  · show (m.data ++ dst.drop m.data.length).length = n
    rw [List.length_append, List.length_drop, hn, Nat.add_sub_of_le hd]
  · show ((m.data ++ dst.drop m.data.length).take (0 + m.data.length)).drop 0 = m.data
    rw [Nat.zero_add, List.take_left' rfl, List.drop_zero]

/-- the translated scanner after one `Read` that stored `d` at offset `E` and reported `e` -/
def afterRead (g : Gen.Scanner) (r : Reader) (buf : Bytes) (E : Nat) (e : Option SErr) : Gen.Scanner :=
  { g with r := r, buf := buf, end' := (E : Int), err := errOf e, empties := if e.isSome then g.empties else 0 }

theorem splice_length {α} (dst src : List α) (off : Nat) (h : off + src.length ≤ dst.length) :
    (dst.take off ++ src ++ dst.drop (off + src.length)).length = dst.length := by
  rw [List.length_append, List.length_append, List.length_take, List.length_drop,
    Nat.min_eq_left (Nat.le_trans (Nat.le_add_right _ _) h), Nat.add_sub_of_le h]

/-- bytes stored behind the pending ones extend them -/
theorem window_append (buf d q : Bytes) (s E : Nat) (hd : (buf.take E).drop s = d) (hE : s + d.length = E)
    (hle : E ≤ buf.length) :
    ((buf.take E ++ q ++ buf.drop (E + q.length)).take (s + (d ++ q).length)).drop s = d ++ q := by
  have hT : (buf.take E).length = E := by rw [List.length_take, Nat.min_eq_left hle]
  have hEq : s + (d ++ q).length = (buf.take E ++ q).length := by
    rw [List.length_append, List.length_append, hT, ← Nat.add_assoc, hE]
  rw [hEq, List.take_left' rfl, List.drop_append_of_le_length (by rw [hT, ← hE]; exact Nat.le_add_right _ _), hd]

theorem Rel.read {F g m} (h : Rel F g m) (hfit : m.start + m.data.length ≤ m.bufLen) (q : Bytes × Option SErr × Source)
    (hq : m.src.read (m.bufLen - (m.start + m.data.length)) = q) (hql : q.1.length ≤ m.bufLen - (m.start + m.data.length)) :
    Rel F (afterRead g (toReader q.2.2)
      (g.buf.take (m.start + m.data.length) ++ q.1 ++ g.buf.drop (m.start + m.data.length + q.1.length))
      (m.start + m.data.length + q.1.length) q.2.1) (fill m) := by
  have hle : m.start + m.data.length + q.1.length ≤ g.buf.length := by rw [h.len]; exact Nat.add_le_of_le_sub' hfit hql
  unfold fill
  rw [hq]
  refine ⟨h.split, h.done, h.start, ?_, (splice_length g.buf q.1 _ hle).trans h.len,
    window_append g.buf m.data q.1 m.start _ h.data rfl (Nat.le_trans (Nat.le_add_right _ _) hle), h.maxTok, rfl, rfl⟩
  show ((m.start + m.data.length + q.1.length : Nat) : Int) = ((m.start + (m.data ++ q.1).length : Nat) : Int)
  rw [List.length_append, Nat.add_assoc]

theorem Bnd.of_le {F m m'} (h : Bnd F m) (hfit : m'.start + m'.data.length ≤ m'.bufLen) (hb : m'.bufLen = m.bufLen)
    (hm : m'.maxTok = m.maxTok) (hs : m'.src = m.src) : Bnd F m' :=
  ⟨hfit, hb ▸ h.lenF, hm ▸ h.maxF, h.big, hs ▸ h.nonempty⟩

theorem Bnd.move {F m} (h : Bnd F m) (n : Nat) (hd : m.data.length ≤ n) (hn : n < F) :
    Bnd F { m with bufLen := n, start := 0 } :=
  ⟨Nat.le_trans (Nat.le_of_eq (Nat.zero_add _)) hd, hn, h.maxF, h.big, h.nonempty⟩

theorem Bnd.fill {F m} (h : Bnd F m) (hroom : m.start + m.data.length < m.bufLen) : Bnd F (fill m) := by
  refine ⟨?_, h.lenF, h.maxF, h.big, (read_contract m.src _ (Nat.sub_pos_of_lt hroom) h.nonempty).2⟩
  show m.start + (m.data ++ _).length ≤ m.bufLen
  rw [List.length_append, ← Nat.add_assoc]
  exact Nat.add_le_of_le_sub' (Nat.le_of_lt hroom) (read_len_le m.src _)

theorem Bnd.trySplit {F m} (h : Bnd F m) : Bnd F (trySplit m).2 := by
  have ht := trySplit_cases m
  -- `ht` is a `match` on the value split next: in the goal, it is evaluated in each case
  revert ht
  cases (Proofs.trySplit m).1 with
  | none => rintro ⟨h2, _⟩; rw [h2]; exact h
  | some t =>
    rintro ⟨hsf, h2⟩
    have hadv := sf_adv_le m.data m.err.isSome
    rw [hsf] at hadv
    rw [h2]
    exact h.of_le (Nat.le_trans (Nat.le_of_eq (drop_window m.start t.1 m.data hadv)) h.fits) rfl rfl rfl

/-- the translated iteration `r` does the model's step (`restStep`): it goes on, or stops, with a scanner that stands
for the model's -/
def StepRel (F : Nat) (r : GoM (Step Gen.Scanner (Bool × Gen.Scanner))) : Scanner ⊕ Scanner → Prop
  | .inl m' => ∃ g', r = .ok (.next g') ∧ Rel F g' m' ∧ Bnd F m'
  | .inr m' => ∃ g', r = .ok (.ret (false, g')) ∧ Rel F g' m' ∧ Bnd F m'

theorem loop2_step (F : Nat) (g : Gen.Scanner) (m : Scanner) (E : Nat) (q : Bytes × Option SErr × Source) (loop : Int)
    (hend : g.end' = (E : Int)) (hlen : g.buf.length = m.bufLen)
    (hr : g.r = toReader m.src) (hgerr : g.err = none) (hEle : E ≤ m.bufLen)
    (hq : m.src.read (m.bufLen - E) = q) (hql : q.1.length ≤ m.bufLen - E)
    (hprog : 0 < q.1.length ∨ q.2.1.isSome = true) :
    Gen.Scanner_Scan_loop2 F (g, loop) =
      .ok (.brk (afterRead g (toReader q.2.2) (g.buf.take E ++ q.1 ++ g.buf.drop (E + q.1.length)) (E + q.1.length) q.2.1,
                 loop)) := by
  have hle : E + q.1.length ≤ g.buf.length := by rw [hlen]; exact Nat.add_le_of_le_sub' hEle hql
  have hfree : (g.buf.length : Int) - E = ((m.bufLen - E : Nat) : Int) := by rw [hlen, Int.natCast_sub hEle]
  unfold Gen.Scanner_Scan_loop2
  dsimp only
  rw [hend, len_eq, slice_ok g.buf E _ (Nat.le_trans (Nat.le_add_right _ _) hle) (Nat.le_refl _), ok_bind, hfree, hr,
    readerRead_eq, hq, ok_bind]
  dsimp only
  rw [copyInto_ok g.buf q.1 E hle, ok_bind]
  dsimp only
  -- the count `Read` reports is within the room it was given
  rw [len_eq (_ ++ _), splice_length g.buf q.1 E hle, hfree, len_eq, decide_eq_false (Int.not_lt.mpr (Int.natCast_nonneg _)),
    decide_eq_false (Int.not_lt.mpr (Int.ofNat_le.mpr hql)), Bool.or_false, if_neg Bool.false_ne_true, ← Int.natCast_add, errOf_ne_none]
  cases hqe : q.2.1 with
  | some e => rw [if_pos (show (some e).isSome = true from rfl), hgerr, setErr_none _ _ _ rfl]; rfl
  | none =>
    have c4 : (q.1.length : Int) > 0 := Int.natCast_pos.mpr (hprog.resolve_right (by rw [hqe]; exact Bool.false_ne_true))
    rw [if_neg (show ¬ (none : Option SErr).isSome = true from Bool.false_ne_true), if_pos (decide_eq_true c4), hgerr]; rfl

/-- the inner read loop (join point 3): one `Read`, which always makes progress, then round the outer loop again -/
theorem j3_eq (F : Nat) (g : Gen.Scanner) (m : Scanner) (hR : Rel F g m) (hB : Bnd F m) (herr : m.err = none)
    (hroom : m.start + m.data.length < m.bufLen) :
    StepRel F (Gen.Scanner_Scan_j3 F g) (.inl (fill m)) := by
  obtain ⟨F', rfl⟩ := Nat.exists_eq_succ_of_ne_zero (Nat.ne_of_gt (Nat.zero_lt_of_lt hB.lenF))
  have hfit := hB.fits
  have hl := read_len_le m.src (m.bufLen - (m.start + m.data.length))
  have hstep := loop2_step (F' + 1) g m _ _ 0 hR.end' hR.len hR.r (hR.errNone herr) hfit rfl hl
    (read_contract m.src _ (Nat.sub_pos_of_lt hroom) hB.nonempty).1
  refine ⟨_, ?_, hR.read hfit _ rfl hl, hB.fill hroom⟩
  unfold Gen.Scanner_Scan_j3
  simp only [ok_bind, loopM_brk hstep]; rfl

/-- join point 2: a full buffer is grown (or the scan gives up with `ErrTooLong`), then the read -/
theorem j2_eq (F : Nat) (g : Gen.Scanner) (m : Scanner) (hR : Rel F g m) (hB : Bnd F m) (herr : m.err = none) :
    StepRel F (Gen.Scanner_Scan_j2 F g) (growStep m) := by
  have hfit := hB.fits
  have e1 := hR.lenBuf
  unfold Gen.Scanner_Scan_j2 growStep
  rw [hR.isFull]
  by_cases hfull : (m.start + m.data.length == m.bufLen) = true
  · rw [if_pos hfull, if_pos hfull]
    by_cases hbig : (m.bufLen : Int) ≥ m.maxTok
    · have c2 : (decide (len g.buf ≥ g.maxTokenSize) || decide (len g.buf > 4611686018427387903)) = true := by
        rw [e1, hR.maxTok, decide_eq_true hbig]; rfl
      rw [if_pos c2, if_pos hbig, setErr_none _ _ _ (hR.errNone herr)]
      exact ⟨_, rfl, hR.setErr .tooLong, hB.of_le hfit rfl rfl rfl⟩
    · have hF : (m.bufLen : Int) ≤ 4611686018427387903 := Int.ofNat_le.mpr (Nat.le_trans (Nat.le_of_lt hB.lenF) hB.big)
      have c2 : ¬ (decide (len g.buf ≥ g.maxTokenSize) || decide (len g.buf > 4611686018427387903)) = true := by
        rw [e1, hR.maxTok, decide_eq_false hbig, decide_eq_false (Int.not_lt.mpr hF)]; exact Bool.false_ne_true
      rw [if_neg c2, if_neg hbig]
      obtain ⟨hgt, hle⟩ := grow_bufLen m hbig
      have hdl : m.data.length < (grow m).bufLen := Nat.lt_of_le_of_lt (Nat.le_trans (Nat.le_add_left _ _) hfit) hgt
      have hNF : (grow m).bufLen < F := by have := hB.maxF; omega
      have hcp := copyInto_zero (List.replicate (grow m).bufLen (0 : UInt8)) m.data
        (by rw [List.length_replicate]; exact Nat.le_of_lt hdl)
      have h3 := j3_eq F _ (grow m) (hR.move (List.replicate (grow m).bufLen (0 : UInt8)) _ List.length_replicate (Nat.le_of_lt hdl))
        (hB.move _ (Nat.le_of_lt hdl) hNF) herr (Nat.lt_of_le_of_lt (Nat.le_of_eq (Nat.zero_add _)) hdl)
      have hsize : (if len g.buf * 2 == 0 then min 4096 g.maxTokenSize else min (len g.buf * 2) g.maxTokenSize) =
          ((grow m).bufLen : Int) := by
        rw [e1, hR.maxTok]; exact growSize_cast m.bufLen m.maxTok (Int.lt_of_not_ge hbig)
      dsimp only
      by_cases h0 : (len g.buf * 2 == 0) = true
      · rw [if_pos h0] at hsize ⊢
        rw [hsize, makeSlice_natCast, ok_bind, hR.slice hfit, ok_bind, hcp, ok_bind, hR.pending]
        exact h3
      · rw [if_neg h0] at hsize ⊢
        rw [hsize, makeSlice_natCast, ok_bind, hR.slice hfit, ok_bind, hcp, ok_bind, hR.pending]
        exact h3
  · rw [if_neg hfull, if_neg hfull]
    exact j3_eq F g m hR hB herr (Nat.lt_of_le_of_ne hfit (fun h => hfull (beq_iff_eq.mpr h)))

/-- the condition for moving the pending bytes to the start of the buffer, over `int` and over `Nat` -/
theorem shiftCond_cast (s e b : Nat) :
    (decide ((s : Int) > 0) && ((e : Int) == (b : Int) || decide ((s : Int) > Int.tdiv (b : Int) 2))) =
      (decide (s > 0) && (e == b || decide (s > b / 2))) := by
  have ediv : Int.tdiv (b : Int) 2 = ((b / 2 : Nat) : Int) := by rw [Int.natCast_tdiv_eq_ediv]; omega
  rw [ediv, Bool.eq_iff_iff]
  simp only [Bool.and_eq_true, Bool.or_eq_true, decide_eq_true_eq, beq_iff_eq]
  omega

theorem Rel.shiftCond {F g m} (h : Rel F g m) :
    (decide (g.start > 0) && (g.end' == GoRT.len g.buf || decide (g.start > Int.tdiv (GoRT.len g.buf) 2))) =
      (decide (m.start > 0) && (m.start + m.data.length == m.bufLen || decide (m.start > m.bufLen / 2))) := by
  rw [h.start, h.end', h.lenBuf, shiftCond_cast]

/-- join point 1: give up if the input has ended, else shift the pending data to the start of the buffer if that
makes room, then grow / read -/
theorem j1_eq (F : Nat) (g : Gen.Scanner) (m : Scanner) (hR : Rel F g m) (hB : Bnd F m) :
    StepRel F (Gen.Scanner_Scan_j1 F g) (restStep m) := by
  have hfit := hB.fits
  unfold restStep Gen.Scanner_Scan_j1
  rw [hR.errSome, hR.shiftCond]
  by_cases herr : m.err.isSome = true
  · rw [if_pos herr, if_pos herr]
    exact ⟨_, rfl, hR.clear, hB.of_le (Nat.zero_le _) rfl rfl rfl⟩
  · have hnone : m.err = none := Option.not_isSome_iff_eq_none.mp herr
    rw [if_neg herr, if_neg herr]
    unfold shift
    by_cases hsh : (decide (m.start > 0) && (m.start + m.data.length == m.bufLen || decide (m.start > m.bufLen / 2))) = true
    · rw [if_pos hsh, if_pos hsh]
      have hdl : m.data.length ≤ m.bufLen := Nat.le_trans (Nat.le_add_left _ _) hfit
      have hcp := copyInto_zero g.buf m.data (by rw [hR.len]; exact hdl)
      rw [hR.slice hfit, ok_bind, hcp, ok_bind]
      dsimp only
      rw [hR.pending]
      exact j2_eq F _ _ (hR.move g.buf m.bufLen hR.len hdl) (hB.move m.bufLen hdl hB.lenF) hnone
    · rw [if_neg hsh, if_neg hsh]
      exact j2_eq F g m hR hB hnone

theorem advance_ok (F : Nat) (g : Gen.Scanner) (n : Nat) (d : Nat) (hd : g.end' - g.start = (d : Int)) (hn : n ≤ d) :
    Gen.Scanner_advance F g (n : Int) = .ok (true, { g with start := g.start + (n : Int) }) := by
  unfold Gen.Scanner_advance
  rw [if_neg (by rw [decide_eq_true_eq]; omega), hd, if_neg (by rw [decide_eq_true_eq]; omega)]; rfl

theorem loop1_step (F : Nat) (g : Gen.Scanner) (m : Scanner) (hR : Rel F g m) (hB : Bnd F m) :
    match (trySplit m).1 with
    | some t => ∃ g', Gen.Scanner_Scan_loop1 F g = .ok (.ret (true, g')) ∧ Rel F g' (trySplit m).2 ∧
        g'.token = some t.2
    | none => StepRel F (Gen.Scanner_Scan_loop1 F g) (restStep m) := by
  have hfit := hB.fits
  -- the goal mentions the body in both branches: it becomes `X` there and is computed once, in `hX`
  generalize hX : Gen.Scanner_Scan_loop1 F g = X
  unfold Gen.Scanner_Scan_loop1 at hX
  dsimp only at hX
  rw [hR.hasWork] at hX
  unfold trySplit
  by_cases hc : (!m.data.isEmpty || m.err.isSome) = true
  · -- all that is used of the split function's result
    have hsp : genSplit F m.data m.err.isSome = _ :=
      splitFunc_eq F m.data m.err.isSome (Nat.lt_of_le_of_lt (Nat.le_trans (Nat.le_add_left _ _) hfit) hB.lenF)
    have hadvle := sf_adv_le m.data m.err.isSome
    have hpos := fun tok h => (splitFunc_token_range m.data m.err.isSome tok h).1
    have hnone := fun h => (splitFunc_none m.data m.err.isSome h).1
    generalize splitFunc m.data m.err.isSome = sf at hsp hadvle hpos hnone ⊢
    obtain ⟨adv, tok⟩ := sf
    rw [if_pos hc, hR.slice hfit, ok_bind, hR.split, hR.errSome, hsp, ok_bind] at hX
    dsimp only at hX
    rw [if_neg (show ¬ ((none : Option String) != none) = true from Bool.false_ne_true),
      advance_ok F g _ _ hR.pending hadvle, ok_bind] at hX
    dsimp only at hX
    rw [if_neg (show ¬ (!true) = true from Bool.false_ne_true)] at hX
    rw [if_pos hc]
    cases tok with
    | some t =>
      rw [if_pos (show (some t != none) = true from rfl), decide_eq_true (Int.natCast_pos.mpr (hpos t rfl)), Bool.or_true,
        if_pos rfl] at hX
      exact ⟨_, hX.symm, (hR.advance _ hadvle).ghost _ _ _, rfl⟩
    | none =>
      obtain rfl : adv = 0 := congrArg Prod.fst (hnone rfl)
      rw [if_neg (show ¬ ((none : Option Bytes) != none) = true from Bool.false_ne_true)] at hX
      -- the scanner is as before (apart from the `token` field): the rest of the iteration
      rw [← hX]
      exact j1_eq F _ m ((hR.advance 0 (Nat.zero_le _)).ghost none g.empties g.scanCalled) hB
  · rw [if_neg hc] at hX ⊢
    rw [← hX]
    exact j1_eq F g m hR hB

theorem scan_loop_eq (F : Nat) :
    ∀ (k : Nat) (g : Gen.Scanner) (m : Scanner), Rel F g m → Bnd F m →
      (if m.err.isSome then 1 else m.src.size + 2) ≤ k →
      ∃ g', loopM (Gen.Scanner_Scan_loop1 F) k g = .ok (.inr ((Scanner.scan k m).1.isSome, g')) ∧
        Rel F g' (Scanner.scan k m).2 ∧ (∀ t, (Scanner.scan k m).1 = some t → g'.token = some t.2) ∧
        Bnd F (Scanner.scan k m).2 := by
  intro k
  induction k with
  | zero => intro g m _ _ h; split at h <;> omega
  | succ k ih =>
    intro g m hR hB hk
    have hstep := loop1_step F g m hR hB
    rw [scan_succ]
    cases hts : (trySplit m).1 with
    | some t =>
      rw [hts] at hstep
      obtain ⟨g', hg, hR', htok⟩ := hstep
      exact ⟨g', loopM_ret hg k, hR', fun t' ht' => by cases ht'; exact htok, hB.trySplit⟩
    | none =>
      rw [hts] at hstep
      dsimp only
      have hcase := restStep_cases m
      revert hstep hcase
      cases restStep m with
      | inl s =>
        rintro ⟨g', hg, hR', hB'⟩ ⟨hnone, s1, hroom, rfl⟩
        rw [loopM_next hg]
        exact ih g' _ hR' hB' (hroom.fuel hB.fits hnone hk)
      | inr s =>
        rintro ⟨g', hg, hR', hB'⟩ _
        exact ⟨g', loopM_ret hg k, hR', nofun, hB'⟩

/-- **`(*bufio.Scanner).Scan`, as translated from the toolchain's source, is the model's `Scanner.scan`.**
For a scanner that stands for the model scanner `m` (`Rel`: go-sse's translated `splitFunc` as split function, same
pending bytes, buffer length, limit, reader and sticky error), with the sizes below the fuel and a reader that
never returns `0, nil` (`Bnd`), one call returns `true` exactly when the model's `scan` yields a token, leaves that
token in `s.token`, and leaves a scanner that stands for the model's new state. In particular the translated code
does not panic and its loops end. -/
theorem Scan_eq (F : Nat) (g : Gen.Scanner) (m : Scanner) (hR : Rel F g m) (hB : Bnd F m) (hI : SInv m)
    (hk : (if m.err.isSome then 1 else m.src.size + 2) ≤ F) :
    ∃ g', Gen.Scanner_Scan F g = .ok ((Scanner.scan F m).1.isSome, g') ∧ Rel F g' (Scanner.scan F m).2 ∧
      (∀ t, (Scanner.scan F m).1 = some t → g'.token = some t.2) ∧ Bnd F (Scanner.scan F m).2 := by
  obtain ⟨g', h1, h2, h3, h4⟩ := scan_loop_eq F F _ m (hR.ghost g.token g.empties true) hB hk
  refine ⟨g', ?_, h2, h3, h4⟩
  unfold Gen.Scanner_Scan
  rw [if_neg (by rw [hR.done]; exact Bool.false_ne_true)]
  simp only [ok_bind, h1]; rfl

/-- `(*bufio.Scanner).Err`: `io.EOF` is not reported -/
theorem ScannerErr_eq (F : Nat) (g : Gen.Scanner) (m : Scanner) (hR : Rel F g m) :
    Gen.Scanner_Err F g = .ok (errOf (match m.err with | some .eof => none | e => e), g) := by
  unfold Gen.Scanner_Err
  rw [hR.err]
  cases hm : m.err with
  | none => simp [errOf, pure, Except.pure]
  | some e => cases e <;> simp [errOf, pure, Except.pure]

/-- the translated scanner as `bufio.NewScanner(r)` + `Split(splitFunc)` (+ `Buffer(buf, max)`: `buf[0:cap(buf)]`,
whose contents are irrelevant) leave it -/
def newGenScanner (F : Nat) (src : Source) (buf : Bytes) (max : Int) : Gen.Scanner :=
  { r := toReader src, split := genSplit F, maxTokenSize := max, token := none, buf := buf, start := 0, end' := 0, err := none, empties := 0, scanCalled := false, done := false }

/-- the hypotheses of `Scan_eq` hold of a freshly made scanner: `Scan_eq` is not vacuous, and since it re-establishes
`Rel` and `Bnd` it applies to every later call as well -/
theorem rel_initial (F : Nat) (src : Source) (buf : Bytes) (max : Int) :
    Rel F (newGenScanner F src buf max) (mkScanner src (some (buf.length, max))) :=
  ⟨rfl, rfl, rfl, rfl, rfl, by simp [mkScanner], rfl, rfl, rfl⟩

theorem rel_initial_default (F : Nat) (src : Source) :
    Rel F (newGenScanner F src [] 65536) (mkScanner src none) :=
  rel_initial F src [] 65536

example : Bnd 70000 (mkScanner { chunks := [[100, 58, 120, 10, 10]], endErr := false } none) ∧
    SInv (mkScanner { chunks := [[100, 58, 120, 10, 10]], endErr := false } none) :=
  ⟨⟨by decide, by decide, by decide, by decide, by simp [mkScanner]⟩, ⟨by decide, by simp [mkScanner]⟩⟩

end GoSSE.GenEquiv
