import GoSSE.Proofs.GenEquivFields
import GoSSE.Gen.Write
/-!
# The translated encoders (`chunk.WriteTo`, `writeMessageField`, `writeID/Type/Retry`, `Message.WriteTo`)

`GoSSE/Gen/Write.lean` is the encoding side of message.go as translated from /repo's current source, generic in the
writer (`GoRT.Writer σ`: any state and any `Write` function). For every model writer, message and starting state
the translated `Message.WriteTo` returns the model's count and error and leaves the writer in the model's state —
so C15's byte accounting (`writeTo_accounting`) and C02's wire format hold of the source text — and it panics exactly
when the model's 13-byte retry buffer overflows (never, for a `time.Duration`: `retry_digits`).
-/
namespace GoSSE.GenEquiv
open GoSSE GoSSE.GoRT GoSSE.Model

/-- a model writer (with `String` errors) at state `st`, as the translated code's `io.Writer` -/
def toGenW {σ : Type} (w : Model.Writer σ String) (st : σ) : GoRT.Writer σ :=
  { st := st, write := fun s p => (((w.write s p).1 : Int), (w.write s p).2.1, (w.write s p).2.2) }

def toGenMsg (m : Message) : Gen.Message :=
  { chunks := m.chunks.map gC, ID := ⟨toGenF m.id⟩, Type' := ⟨toGenF m.typ⟩, Retry := m.retry }

theorem toGenMsg_chunks (m : Message) : (toGenMsg m).chunks = m.chunks.map gC := rfl
theorem toGenMsg_id (m : Message) : (toGenMsg m).ID.messageField = toGenF m.id := rfl
theorem toGenMsg_typ (m : Message) : (toGenMsg m).Type'.messageField = toGenF m.typ := rfl

/-- what a translated encoder returns for the model's result `r` (count, error, the in/out values) -/
def okOf {σ α : Type} (w : Model.Writer σ String) (r : WR σ String) (x : α) : GoM (Int × Option String × α × GoRT.Writer σ) :=
  .ok ((r.n : Int), r.err, x, toGenW w r.st)

/-- what a translated encoder returns for the model's result `r`, including the model's panic outcome -/
def okOrPanic {σ α : Type} (w : Model.Writer σ String) (r : WR σ String) (x : α) : GoM (Int × Option String × α × GoRT.Writer σ) :=
  if r.panic then .error (.panic "index out of range") else okOf w r x

theorem okOrPanic_of {σ α : Type} (w : Model.Writer σ String) (r : WR σ String) (x : α) (hp : r.panic = false) :
    okOrPanic w r x = okOf w r x := by
  rw [okOrPanic, hp]; rfl

@[simp] theorem toGenW_st {σ : Type} (w : Model.Writer σ String) (st : σ) : (toGenW w st).st = st := rfl
@[simp] theorem toGenW_write {σ : Type} (w : Model.Writer σ String) (st s : σ) (p : Bytes) :
    (toGenW w st).write s p = (((w.write s p).1 : Int), (w.write s p).2.1, (w.write s p).2.2) := rfl
@[simp] theorem toGenW_with {σ : Type} (w : Model.Writer σ String) (st s : σ) :
    ({ toGenW w st with st := s } : GoRT.Writer σ) = toGenW w s := rfl

/-! ### The encoders' one step: `if err != nil { return n, err }`

Every encoder of message.go is a chain of such steps; the model's is `if r.stop then r else …`. Read from the model to
the code, so that the model's result determines the step. -/

theorem ret_if_err {σ α : Type} (w : Model.Writer σ String) (x : α) (N : Int) (r R : WR σ String)
    (k : GoM (Int × Option String × α × GoRT.Writer σ))
    (hN : N = r.n) (hp : r.panic = false) (hk : r.err = none → okOrPanic w R x = k) :
    okOrPanic w (if r.stop then r else R) x =
      if (r.err != none) = true then pure (N, r.err, x, toGenW w r.st) else k := by
  obtain ⟨n, err, st, log, panic⟩ := r
  subst hN hp
  cases err with
  | some e => rfl
  | none => exact hk rfl

theorem ret_last {σ α : Type} (w : Model.Writer σ String) (x : α) (N : Int) (r : WR σ String)
    (hN : N = r.n) (hp : r.panic = false) :
    okOrPanic w r x = pure (N, r.err, x, toGenW w r.st) := by
  rw [okOrPanic_of w r x hp, hN]; rfl

/-- a sub-encoder that may have panicked, then `n += m; if err != nil { return n, err }` -/
theorem ret_or_panic {σ α : Type} (w : Model.Writer σ String) (x : α) (n : Nat) (q R : WR σ String)
    (k : Int × Option String × α × GoRT.Writer σ → GoM (Int × Option String × α × GoRT.Writer σ))
    (hk : q.panic = false → q.err = none → okOrPanic w R x = k ((q.n : Int), q.err, x, toGenW w q.st)) :
    okOrPanic w (if (WR.addTo n q).stop then WR.addTo n q else R) x =
      okOrPanic w q x >>= fun m =>
        if (m.2.1 != none) = true then pure ((n : Int) + m.1, m.2.1, m.2.2.1, m.2.2.2) else k m := by
  obtain ⟨n', err, st, log, _ | _⟩ := q
  · cases err with
    | some _ => rfl
    | none => exact hk rfl rfl
  · cases err <;> rfl

theorem write3_panic {σ ε : Type} (w : Model.Writer σ ε) (st : σ) (log) (a b c : Bytes) :
    (write3 w st log a b c).panic = false := by
  simp only [write3]
  split
  · rfl
  · split <;> rfl

/-- the translated three writes `name`, `content`, newline with the early returns, as a function of the writer -/
theorem three_writes {σ α : Type} (fuel : Nat) (w : Model.Writer σ String) (st : σ) (log) (a b : Bytes) (x : α) :
    (do
      let w0 := toGenW w st
      let w_1 := (w0).write (w0).st a
      let w1 : GoRT.Writer σ := { w0 with st := w_1.2.2 }
      let n : Int := w_1.1
      let err : Option String := w_1.2.1
      if (err != none) then pure (n, err, x, w1)
      else do
        let m_5 ← Gen.writeString fuel w1 b
        let w2 : GoRT.Writer σ := m_5.2.2
        let m : Int := m_5.1
        let err : Option String := m_5.2.1
        let n : Int := n + m
        if (err != none) then pure (n, err, x, w2)
        else do
          let w_7 := (w2).write (w2).st ([10] : Bytes)
          let w3 : GoRT.Writer σ := { w2 with st := w_7.2.2 }
          pure ((n + w_7.1), w_7.2.1, x, w3) : GoM (Int × Option String × α × GoRT.Writer σ)) =
      okOf w (write3 w st log a b newline) x := by
  rw [← okOrPanic_of w _ x (write3_panic w st log a b newline)]
  symm
  refine ret_if_err w x _ _ _ _ ?_ (by rfl) fun _ =>
    ret_if_err w x _ _ _ _ ?_ (by rfl) fun _ => ret_last w x _ _ ?_ (by rfl)
  -- the three counts: `n` starts from zero in the model
  all_goals (simp only [WR.write, Nat.zero_add, Int.natCast_add]; rfl)

theorem chunk_WriteTo_eq {σ : Type} (fuel : Nat) (w : Model.Writer σ String) (st : σ) (log) (c : Chunk) :
    Gen.chunk_WriteTo fuel (gC c) (toGenW w st) = okOf w (c.writeTo w st log) (gC c) := by
  obtain ⟨content, _ | _⟩ := c <;> exact three_writes fuel w st log _ content _

theorem IsSet_eq (fuel : Nat) (f : MField) : Gen.messageField_IsSet fuel (toGenF f) = .ok f.set := rfl
theorem String_eq (fuel : Nat) (f : MField) : Gen.messageField_String fuel (toGenF f) = .ok f.value := rfl

theorem writeMessageField_eq {σ : Type} (fuel : Nat) (w : Model.Writer σ String) (st : σ) (log) (e : Gen.Message)
    (f : MField) (fb : Bytes) :
    Gen.Message_writeMessageField fuel e (toGenW w st) (toGenF f) fb = okOf w (writeMessageField w st log f fb) e := by
  obtain ⟨value, _ | _⟩ := f
  · rfl
  · exact three_writes fuel w st log fb value e

/-- `writeID`, `writeType`: the callee's results handed on -/
theorem okOf_handed_on {σ α : Type} (w : Model.Writer σ String) (r : WR σ String) (x : α)
    {sub : GoM (Int × Option String × α × GoRT.Writer σ)} (h : sub = okOf w r x) :
    (do let m ← sub; pure (m.1, m.2.1, m.2.2.1, m.2.2.2)) = okOf w r x := by
  rw [h]; rfl

theorem writeID_eq {σ : Type} (fuel : Nat) (w : Model.Writer σ String) (st : σ) (log) (m : Message) :
    Gen.Message_writeID fuel (toGenMsg m) (toGenW w st) = okOf w (m.writeID w st log) (toGenMsg m) :=
  okOf_handed_on w _ _ (writeMessageField_eq fuel w st log (toGenMsg m) m.id fieldBytesID)

theorem writeType_eq {σ : Type} (fuel : Nat) (w : Model.Writer σ String) (st : σ) (log) (m : Message) :
    Gen.Message_writeType fuel (toGenMsg m) (toGenW w st) = okOf w (m.writeType w st log) (toGenMsg m) :=
  okOf_handed_on w _ _ (writeMessageField_eq fuel w st log (toGenMsg m) m.typ fieldBytesEvent)

/-- one iteration of the digit loop; `byte(millis % 10)` is `millis % 10 % 256` -/
theorem retry_body_succ {σ : Type} (fuel : Nat) (m j : Nat) (buf : Bytes) (hj : j < buf.length) :
    Gen.Message_writeRetry_loop1 (σ := σ) fuel (((m + 1 : Nat) : Int), buf, (j : Int)) =
      .ok (.next ((((m + 1) / 10 : Nat) : Int), buf.set j (48 + UInt8.ofNat ((m + 1) % 10)), (j : Int) - 1)) := by
  show (setIdx buf (j : Int) (48 + UInt8.ofNat ((m + 1) % 10 % 256)) >>= fun b => pure (Step.next (_, b, (j : Int) - 1))) = _
  rw [Nat.mod_eq_of_lt (Nat.lt_trans (Nat.mod_lt _ (by decide)) (by decide)), setIdx_ok buf j _ hj]
  rfl

/-- at `millis = 0` the digit loop stops, at `i = -1` the store panics -/
theorem retry_loop_run {σ : Type} (fuel : Nat) :
    ∀ (j n M : Nat) (buf : Bytes) (i : Int), i = (j : Int) - 1 → j ≤ buf.length → j < n →
      loopM (Gen.Message_writeRetry_loop1 (σ := σ) fuel) n ((M : Int), buf, i) =
        match retryLoop j M buf with
        | some r => .ok (.inl ((0 : Int), r.2, (r.1 : Int) - 1))
        | none => .error (.panic "index out of range") := by
  intro j
  induction j with
  | zero =>
    intro n M buf i hi _ hn
    subst hi
    obtain ⟨n, rfl⟩ := Nat.exists_eq_add_one.mpr (Nat.zero_lt_of_lt hn)
    cases M with
    | zero => exact loopM_brk (by rfl) n
    | succ m => exact loopM_error (by rfl) n
  | succ j ih =>
    intro n M buf i hi hj hn
    obtain ⟨n, rfl⟩ := Nat.exists_eq_add_one.mpr (Nat.zero_lt_of_lt hn)
    cases M with
    | zero => subst hi; exact loopM_brk (by rfl) n
    | succ m =>
      obtain rfl : i = (j : Int) := hi.trans (Int.add_sub_cancel (j : Int) 1)
      rw [loopM_next (retry_body_succ fuel m j buf hj) n]
      exact ih n _ _ _ rfl (by rw [List.length_set]; exact Nat.le_of_succ_le hj) (Nat.lt_of_succ_lt_succ hn)

theorem retry_loop_eq {σ : Type} (fuel : Nat) :
    ∀ (j n M : Nat) (buf : Bytes), buf.length = 13 → j ≤ 13 → j < n →
      loopM (Gen.Message_writeRetry_loop1 (σ := σ) fuel) n ((M : Int), buf, (j : Int) - 1) =
        match retryLoop j M buf with
        | some r => .ok (.inl ((0 : Int), r.2, (r.1 : Int) - 1))
        | none => .error (.panic "index out of range") :=
  fun j n M buf hb hj hn => retry_loop_run fuel j n M buf _ rfl (hb ▸ hj) hn

theorem retryLoop_bounds : ∀ (j M : Nat) (buf : Bytes) (r : Nat × Bytes), retryLoop j M buf = some r →
    r.1 ≤ j ∧ r.2.length = buf.length := by
  intro j
  induction j with
  | zero =>
    intro M buf r h
    rw [retryLoop] at h
    split at h <;> cases h
    exact ⟨Nat.le_refl _, rfl⟩
  | succ j ih =>
    intro M buf r h
    rw [retryLoop] at h
    split at h
    · cases h; exact ⟨Nat.le_refl _, rfl⟩
    · obtain ⟨h1, h2⟩ := ih _ _ r h
      exact ⟨Nat.le_succ_of_le h1, h2.trans List.length_set⟩

/-- `13 < fuel`: the digit loop runs down the 13-byte buffer the `retry` value is formatted into -/
theorem writeRetry_eq {σ : Type} (fuel : Nat) (hf : 13 < fuel) (w : Model.Writer σ String) (st : σ) (log) (m : Message) :
    Gen.Message_writeRetry fuel (toGenMsg m) (toGenW w st) = okOrPanic w (m.writeRetry w st log) (toGenMsg m) := by
  unfold Gen.Message_writeRetry Message.writeRetry
  show (if decide (m.millis ≤ 0) = true then _ else _) = okOrPanic w (if m.millis ≤ 0 then _ else _) _
  by_cases hle : m.millis ≤ 0
  · rw [if_pos (decide_eq_true hle), if_pos hle]; rfl
  rw [if_neg (mt of_decide_eq_true hle), if_neg hle]
  obtain ⟨M, hM⟩ : ∃ M : Nat, m.millis = M := ⟨m.millis.toNat, by omega⟩
  rw [show Int.tdiv (toGenMsg m).Retry 1000000 = (M : Int) from hM, hM, Int.toNat_natCast, retryDigits]
  have hloop := retry_loop_run (σ := σ) fuel 13 fuel M (List.replicate 13 0) 12 rfl
    (Nat.le_of_eq List.length_replicate.symm) hf
  cases hr : retryLoop 13 M (List.replicate 13 0) with
  | none =>
    -- the model's 13-byte buffer overflows: a panic once the field name has been written without an error
    rw [hr] at hloop
    symm
    refine ret_if_err w _ _ _ _ _ ?_ (by rfl) fun _ => ?_
    · simp only [WR.write, Nat.zero_add]; rfl
    · show _ = (loopM _ fuel _ >>= _)
      rw [hloop]; rfl
  | some r =>
    -- the digits are `buf[i+1:]`; what is left is the three writes of a field line
    rw [hr] at hloop
    obtain ⟨hj, hl⟩ := retryLoop_bounds 13 M _ r hr
    simp only [hloop, ok_bind, Int.sub_add_cancel, sliceFrom_ok r.2 r.1 (hl ▸ hj)]
    exact (three_writes fuel w st log fieldBytesRetry (r.2.drop r.1) (toGenMsg m)).trans
      (okOrPanic_of w _ _ (write3_panic w st log _ _ _)).symm

theorem chunk_writeTo_panic {σ : Type} (w : Model.Writer σ String) (st : σ) (log) (c : Chunk) :
    (c.writeTo w st log).panic = false := by
  unfold Chunk.writeTo; exact write3_panic w st log _ _ _

@[simp] theorem addTo_n {σ ε : Type} (n : Nat) (q : WR σ ε) : (WR.addTo n q).n = n + q.n := rfl
@[simp] theorem addTo_err {σ ε : Type} (n : Nat) (q : WR σ ε) : (WR.addTo n q).err = q.err := rfl
@[simp] theorem addTo_st {σ ε : Type} (n : Nat) (q : WR σ ε) : (WR.addTo n q).st = q.st := rfl
@[simp] theorem addTo_log {σ ε : Type} (n : Nat) (q : WR σ ε) : (WR.addTo n q).log = q.log := rfl
@[simp] theorem addTo_panic {σ ε : Type} (n : Nat) (q : WR σ ε) : (WR.addTo n q).panic = q.panic := rfl

theorem writeChunks_cons {σ : Type} (w : Model.Writer σ String) (r : WR σ String) (c : Chunk) (cs : List Chunk) :
    writeChunks w r (c :: cs) =
      if (WR.addTo r.n (c.writeTo w r.st r.log)).stop then WR.addTo r.n (c.writeTo w r.st r.log)
      else writeChunks w (WR.addTo r.n (c.writeTo w r.st r.log)) cs := by
  conv => lhs; unfold writeChunks

theorem writeMessageField_panic {σ : Type} (w : Model.Writer σ String) (st : σ) (log) (f : MField) (fb : Bytes) :
    (writeMessageField w st log f fb).panic = false := by
  unfold writeMessageField
  split
  · rfl
  · exact write3_panic w st log _ _ _

theorem WriteTo_body_lt {σ : Type} (fuel : Nat) (w : Model.Writer σ String) (all : List Chunk) (e : Gen.Message)
    (he : e.chunks = all.map gC) (i : Nat) (hi : i < all.length) (st : σ) (log) (n : Nat) (errp : Option String) (mp : Int) :
    Gen.Message_WriteTo_loop1 fuel (all.map gC) ((i : Int), e, toGenW w st, (n : Int), errp, mp) =
      let q := (all[i]).writeTo w st log
      if (q.err != none) = true then .ok (.ret ((n : Int) + (q.n : Int), q.err, e, toGenW w q.st))
      else .ok (.next ((i : Int) + 1, e, toGenW w q.st, (n : Int) + (q.n : Int), q.err, (q.n : Int))) := by
  have hlt : (i : Int) < len (all.map gC) := by rw [len_eq, List.length_map]; exact Int.ofNat_lt.mpr hi
  show (if (i : Int) < len (all.map gC) then
    (idx e.chunks (i : Int) >>= fun b => Gen.chunk_WriteTo fuel b (toGenW w st) >>= _) else _) = _
  rw [if_pos hlt, he, idx_ok _ i (by rwa [List.length_map]), ok_bind, List.getElem_map, chunk_WriteTo_eq fuel w st log]
  rfl

theorem WriteTo_body_ge {σ : Type} (fuel : Nat) (all : List Chunk)
    (s : Gen.Message × GoRT.Writer σ × Int × Option String × Int) :
    Gen.Message_WriteTo_loop1 fuel (all.map gC) ((all.length : Int), s) = .ok (.brk ((all.length : Int), s)) := by
  have hge : ¬ (all.length : Int) < len (all.map gC) := by rw [len_eq, List.length_map]; exact Int.lt_irrefl _
  show (if (all.length : Int) < len (all.map gC) then _ else _) = _
  rw [if_neg hge]; rfl

theorem stop_ite {σ ε : Type} (F : WR σ ε → WR σ ε) (a b : WR σ ε) :
    (if (if a.stop then a else b).stop then (if a.stop then a else b) else F (if a.stop then a else b)) =
      if a.stop then a else (if b.stop then b else F b) := by
  cases h : a.stop <;> simp [h]

/-- the chunk loop from index `i` and whatever follows it (`K`, the model's `F`), against the model's `writeChunks` -/
theorem WriteTo_loop_eq {σ : Type} (fuel : Nat) (w : Model.Writer σ String) (all : List Chunk) (e : Gen.Message)
    (he : e.chunks = all.map gC) (F : WR σ String → WR σ String)
    (K : Int × Gen.Message × GoRT.Writer σ × Int × Option String × Int →
      GoM (Int × Option String × Gen.Message × GoRT.Writer σ))
    (hK : ∀ (r : WR σ String) errp mp, r.panic = false →
      okOrPanic w (F r) e = K ((all.length : Int), e, toGenW w r.st, (r.n : Int), errp, mp)) :
    ∀ (k i : Nat) (r : WR σ String) (errp : Option String) (mp : Int), all.length - i < k → i ≤ all.length →
      r.panic = false → r.err = none →
      okOrPanic w (if (writeChunks w r (all.drop i)).stop then writeChunks w r (all.drop i)
          else F (writeChunks w r (all.drop i))) e =
        (loopM (Gen.Message_WriteTo_loop1 fuel (all.map gC)) k ((i : Int), e, toGenW w r.st, (r.n : Int), errp, mp) >>=
          fun l => match l with
            | .inr v => pure v
            | .inl s => K s) := by
  intro k
  induction k with
  | zero => intro i r _ _ h; exact absurd h (Nat.not_lt_zero _)
  | succ k ih =>
    intro i r errp mp hk hi hp hen
    by_cases hlt : i < all.length
    · have hq := chunk_writeTo_panic w r.st r.log all[i]
      rw [List.drop_eq_getElem_cons hlt, writeChunks_cons, stop_ite,
        loopM_ret_or_next (WriteTo_body_lt fuel w all e he i hlt r.st r.log r.n errp mp) k]
      refine ret_if_err w e _ (WR.addTo r.n _) _ _ rfl hq fun hen' => ?_
      exact ih (i + 1) _ _ _ (index_fuel hlt hk) hlt hq hen'
    · obtain rfl : i = all.length := Nat.le_antisymm hi (Nat.le_of_not_lt hlt)
      rw [List.drop_length, loopM_brk (WriteTo_body_ge fuel all _) k]
      have hs : r.stop = false := by rw [WR.stop, hen, hp]; rfl
      rw [show writeChunks w r [] = r from rfl, hs]
      exact hK r errp mp hp

/-- **`Message.WriteTo`, as translated from message.go, is the model's `writeTo`**: for every writer (any state
machine with `String` errors), every message and every starting state — the count and the error returned, and the
writer's state afterwards; a panic exactly when the model's 13-byte retry buffer overflows. -/
theorem WriteTo_eq {σ : Type} (fuel : Nat) (w : Model.Writer σ String) (st : σ) (m : Message)
    (hf : 13 < fuel) (hc : m.chunks.length < fuel) :
    Gen.Message_WriteTo fuel (toGenMsg m) (toGenW w st) = okOrPanic w (m.writeTo w st) (toGenMsg m) := by
  unfold Gen.Message_WriteTo Message.writeTo
  rw [writeID_eq fuel w st [] m]
  have hp1 : (m.writeID w st []).panic = false := writeMessageField_panic _ _ _ _ _
  generalize m.writeID w st [] = r1 at hp1 ⊢
  symm
  refine ret_if_err w _ _ r1 _ _ rfl hp1 fun _ => ?_
  show _ = (Gen.Message_writeType fuel (toGenMsg m) (toGenW w r1.st) >>= _)
  have hp2 : (m.writeType w r1.st r1.log).panic = false := writeMessageField_panic _ _ _ _ _
  rw [writeType_eq fuel w r1.st r1.log m, ← okOrPanic_of w _ _ hp2]
  generalize m.writeType w r1.st r1.log = q2
  refine ret_or_panic w _ r1.n q2 _ _ fun _ _ => ?_
  show _ = (Gen.Message_writeRetry fuel (toGenMsg m) (toGenW w q2.st) >>= _)
  rw [writeRetry_eq fuel hf w q2.st q2.log m]
  refine ret_or_panic w _ _ (m.writeRetry w q2.st q2.log) _ _ fun hp3 he3 => ?_
  -- the chunk loop, then the closing newline unless nothing was written
  refine WriteTo_loop_eq fuel w m.chunks (toGenMsg m) rfl
    (fun r => if r.n == 0 then { r with n := 0, err := none } else r.write w newline) _ ?_
    fuel 0 (WR.addTo _ _) _ _ hc (Nat.zero_le _) hp3 he3
  intro r errp mp hp
  obtain ⟨_ | n, err, st, log, panic⟩ := r
  · subst hp; rfl
  · exact ret_last w _ _ (WR.write w ⟨n + 1, err, st, log, panic⟩ newline) (Int.add_comm _ _) hp

end GoSSE.GenEquiv
