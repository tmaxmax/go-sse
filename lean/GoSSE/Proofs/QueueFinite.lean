import GoSSE.Proofs.QueueAuto
/-!
The invariant of a `FiniteReplayer`, its state read as a specification state, and the body
that `Replay` of both replayers shares. At the end, histories of Puts (`PutIn`, `runPuts`,
`acceptedIDs`), in whose terms `Props/C08` states that automatic IDs count up over any history.
-/
namespace GoSSE.Proofs
open GoSSE GoSSE.Spec GoSSE.Model

theorem topicsIntersect_eq (a : List Bytes) (e : Entry) : topicsIntersect a e.topics = matchesTopics a e := by
  simp only [topicsIntersect, matchesTopics]
  congr 1
  funext t
  induction e.topics with
  | nil => rfl
  | cons b bs ih =>
    simp only [List.any_cons, List.contains_cons, ih]

theorem ensureID_eq (id : EventID) (cur : Option Nat) : ensureID id cur = assignID cur id := by
  cases cur with
  | none => cases id <;> simp [ensureID, assignID]
  | some k => cases id <;> simp [ensureID, assignID, formatUint_eq]

/-- automatic IDs are consecutive decimals ending just below the counter -/
def AutoOK (cur : Option Nat) (l : List Entry) : Prop := ∀ c, cur = some c → Consec l c

theorem AutoOK.empty (cur : Option Nat) {q : Queue} (h : q.count = 0) : AutoOK cur (abs q) :=
  fun c _ => abs_nil_of_count h ▸ consec_nil c

theorem assignID_auto {k : Nat} {id : EventID} {p : EventID × Option Nat} (h : assignID (some k) id = .ok p) :
    p = (some (decimal k), some (k + 1)) := by
  cases id <;> simp [assignID] at h
  exact h.symm

theorem AutoOK.put {cur cur' : Option Nat} {l : List Entry} (h : AutoOK cur l) {id id' : EventID}
    (ha : assignID cur id = .ok (id', cur')) (msg : Nat) (topics : List Bytes) (exp : Int) (n : Nat) :
    AutoOK cur' (takeLast n (l ++ [{ msg, id := id', topics, exp }])) := by
  intro c hc
  cases cur with
  | none => cases id <;> simp [assignID] at ha; simp [← ha.2] at hc
  | some k =>
    cases assignID_auto ha
    cases hc
    exact consec_put (h k rfl) _ rfl _

theorem assignID_error_iff (cur : Option Nat) (id : EventID) :
    (∃ e, assignID cur id = .error e) ↔ (cur = none ∧ id = none) ∨ (cur ≠ none ∧ id ≠ none) := by
  cases cur <;> cases id <;> simp [assignID]

theorem put_inv {f f' : Finite} {msg : Nat} {id : EventID} {topics : List Bytes} {r : Except PutErr Entry}
    (h : f.put msg id topics = .ok (r, f')) :
    (f' = f ∧ ∃ e, r = .error e) ∨
    ∃ id' cur', assignID f.currentID id = .ok (id', cur') ∧ f'.currentID = cur' ∧
      r = .ok { msg, id := id', topics, exp := 0 } := by
  unfold Finite.put at h
  rw [ensureID_eq] at h
  split at h
  · cases h; exact .inl ⟨rfl, _, rfl⟩
  · split at h
    · cases h; exact .inl ⟨rfl, _, rfl⟩
    · next ha =>
      simp only at h
      split at h
      · cases h
      · cases h; exact .inr ⟨_, _, ha, rfl, rfl⟩

/-- invariant of a `FiniteReplayer` of capacity `N` -/
structure FInv (N : Nat) (f : Finite) : Prop where
  wf : WF f.buf
  len : f.buf.buf.length = N
  cap : 2 ≤ N
  auto : AutoOK f.currentID (abs f.buf)
  dead : DeadZero f.buf

theorem FInv.enqueue {N : Nat} {f : Finite} (h : FInv N f) {id id' : EventID} {cur' : Option Nat}
    (ha : assignID f.currentID id = .ok (id', cur')) (msg : Nat) (topics : List Bytes) :
    ∃ q', f.buf.enqueue { msg, id := id', topics, exp := 0 } = .ok q' ∧ FInv N { currentID := cur', buf := q' } ∧
      abs q' = takeLast N (abs f.buf ++ [{ msg, id := id', topics, exp := 0 }]) := by
  obtain ⟨q', he, hw, hl, habs, hz⟩ := enqueue_abs h.wf (by have := h.cap; have := h.len; omega)
    { msg, id := id', topics, exp := 0 }
  rw [h.len] at hl habs
  exact ⟨q', he, ⟨hw, hl, h.cap, habs ▸ h.auto.put ha _ _ _ _, hz h.dead⟩, habs⟩

/-- the specification state a `FiniteReplayer` stands for -/
def fspec (f : Finite) : Spec.State := { log := abs f.buf, next := f.currentID }

/-- the body that `Replay` of both replayers shares; `live` is the expiry test, constantly true for the
FiniteReplayer -/
theorem replay_core {q : Queue} (h : WF q) (auto : Bool) {cur : Option Nat} (hauto : auto = cur.isSome)
    (hc : AutoOK cur (abs q)) (hcur : ∀ c, cur = some c → c ≤ maxUint64 + 1) (sub : Sub) (live : Entry → Bool) :
    (match findIDInQueue q sub.lastEventID auto with
      | .panic => .panic
      | .ok i =>
        if i < 0 then .ok { calls := [], err := .nil } else
        match q.each i.toNat (sendStep sub fun e => live e && topicsIntersect sub.topics e.topics)
            { calls := [], failed := false } with
        | .panic => .panic
        | .ok st => .ok (finishReplay sub st) : QRes ReplayOut) = .ok (replayOut auto live (abs q) sub) := by
  have key : ∃ r, findIDInQueue q sub.lastEventID auto = .ok r ∧
      ((r = -1 ∧ after auto sub.lastEventID (abs q) = []) ∨
       (∃ k, k < q.count ∧ r = (idx q k : Nat) ∧ after auto sub.lastEventID (abs q) = (abs q).drop k)) := by
    cases cur with
    | none =>
      simp only [Option.isSome_none] at hauto; subst hauto
      simpa [after] using findID_manual h sub.lastEventID
    | some c =>
      simp only [Option.isSome_some] at hauto; subst hauto
      simpa [after] using findID_auto h (hc c rfl) (hcur c rfl) sub.lastEventID
  obtain ⟨r, hr, hcase⟩ := key
  simp only [hr]
  rcases hcase with ⟨rfl, ha⟩ | ⟨k, hk, rfl, ha⟩
  · simp [replayOut, ha, serve]
  · obtain ⟨st, hst, hfin⟩ := each_send h k hk sub (fun e => live e && topicsIntersect sub.topics e.topics)
    have hne : (List.drop k (abs q)).isEmpty = false := by
      rw [List.isEmpty_eq_false_iff, Ne, List.drop_eq_nil_iff, abs_length h]; omega
    rw [if_neg (Int.not_lt.2 (Int.natCast_nonneg _)), Int.toNat_natCast, hst]
    simp only [hfin, replayOut, ha, hne, Bool.not_false, replay, topicsIntersect_eq]

structure PutIn where
  msg : Nat
  id : EventID
  topics : List Bytes

/-- a history of Puts on a FiniteReplayer: the results in order, and the final replayer -/
def runPuts : Finite → List PutIn → QRes (List (Except PutErr Entry) × Finite)
  | f, [] => .ok ([], f)
  | f, p :: ps =>
    match f.put p.msg p.id p.topics with
    | .panic => .panic
    | .ok (r, f') =>
      match runPuts f' ps with
      | .panic => .panic
      | .ok (rs, f'') => .ok (r :: rs, f'')

theorem runPuts_cons {f f1 f' : Finite} {p : PutIn} {ps : List PutIn} {r : Except PutErr Entry}
    {rs : List (Except PutErr Entry)} (hp : f.put p.msg p.id p.topics = .ok (r, f1)) (hr : runPuts f1 ps = .ok (rs, f')) :
    runPuts f (p :: ps) = .ok (r :: rs, f') := by
  simp only [runPuts, hp, hr]

/-- the IDs returned by the accepted Puts -/
def acceptedIDs : List (Except PutErr Entry) → List EventID
  | [] => []
  | .ok e :: t => e.id :: acceptedIDs t
  | .error _ :: t => acceptedIDs t

end GoSSE.Proofs
