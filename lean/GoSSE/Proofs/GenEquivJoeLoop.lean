import GoSSE.Gen.JoeLoop
import GoSSE.Proofs.GenEquiv
import GoSSE.Proofs.MapLemmas
/-!
# The loops of joe.go over the subscribers, as translated, are folds of a one-key step

`removeSubscriber`, `closeSubscribers` and the fan-out of a published message (the `range` statement of `start`'s message
case, `Gen.Joe_fanout`) as translated from joe.go: each loop is the fold, over the order in which the map of subscribers
is ranged (a parameter: any list), of a one-key step (`removeSpec`, `fanStep`). What the folds do is in `GenEquivJoeFanout`.
-/
set_option linter.unusedSimpArgs false
namespace GoSSE.GenEquiv
open GoSSE GoSSE.GoRT GoSSE.Model

variable {σ : Type}

/-- `removeSubscriber`: a registered subscriber is taken out of the map and its channel closed; anything else is left alone -/
def removeSpec (j : Gen.Joe σ) (k : Nat) : Gen.Joe σ :=
  if (mapGet j.subscribers k).isSome then
    { j with subscribers := mapDel j.subscribers k, chlog := j.chlog ++ [ChanOp.close k] }
  else j

theorem removeSubscriber_eq (fuel : Nat) (j : Gen.Joe σ) (k : Nat) :
    Gen.Joe_removeSubscriber fuel j k = .ok (removeSpec j k) := by
  unfold Gen.Joe_removeSubscriber removeSpec
  cases h : (mapGet j.subscribers k).isSome <;> simp [h, pure, Except.pure]

theorem close_body (fuel : Nat) (pre suf : List Nat) (k : Nat) (j : Gen.Joe σ) :
    Gen.Joe_closeSubscribers_loop1 fuel (pre ++ k :: suf) ((pre.length : Int), j) =
      .ok (.next (((pre.length + 1 : Nat) : Int), removeSpec j k)) := by
  unfold Gen.Joe_closeSubscribers_loop1
  simp only [lt_len_mid pre suf k, if_true, bind, Except.bind, idx_mid pre suf k, removeSubscriber_eq, cast_succ]
  cases h : mapGet j.subscribers k with
  | none => simp [removeSpec, h, pure, Except.pure]
  | some v => simp [h, pure, Except.pure]

theorem close_body_end (fuel : Nat) (xs : List Nat) (j : Gen.Joe σ) :
    Gen.Joe_closeSubscribers_loop1 fuel xs ((xs.length : Int), j) = .ok (.brk ((xs.length : Int), j)) := by
  unfold Gen.Joe_closeSubscribers_loop1
  simp [not_lt_len_end xs, pure, Except.pure]

theorem closeSubscribers_eq (fuel : Nat) (j : Gen.Joe σ) (order : List Nat) (hf : order.length < fuel) :
    Gen.Joe_closeSubscribers fuel j order = .ok (order.foldl removeSpec j) := by
  unfold Gen.Joe_closeSubscribers
  have h := loopM_range (Gen.Joe_closeSubscribers_loop1 fuel order) removeSpec (fun _ => True) order
    (fun pre k suf j hx _ => ⟨hx ▸ close_body fuel pre suf k j, trivial⟩) (close_body_end fuel order) fuel hf j trivial
  simp only [bind, Except.bind, h, pure, Except.pure]

/-- the subscriber's error is put on its channel, then it is removed (and its channel closed) -/
def failSub (j : Gen.Joe σ) (k : Nat) (e : Option String) : Gen.Joe σ :=
  removeSpec { j with chlog := j.chlog ++ [ChanOp.send k e] } k

def setWriter (s : Gen.Subscription σ) (st : σ) : Gen.Subscription σ := { s with Client := { s.Client with st := st } }

/-- what the fan-out does when it comes to key `k`: nothing if `k` is no longer a subscriber or its topics do not meet
the message's; otherwise one `Send` and, if that succeeded, one `Flush`; the first error is handed over and the
subscriber removed -/
def fanStep (msg : Gen.publishedMessage) (j : Gen.Joe σ) (k : Nat) : Gen.Joe σ :=
  match mapGet j.subscribers k with
  | none => j
  | some sub =>
    if topicsIntersect sub.Topics msg.messageWithTopics.topics then
      let r1 := sub.Client.send sub.Client.st msg.messageWithTopics.message
      let sub1 := setWriter sub r1.2
      let j1 : Gen.Joe σ := { j with subscribers := mapSet j.subscribers k sub1 }
      match r1.1 with
      | some e => failSub j1 k (some e)
      | none =>
        let r2 := sub1.Client.flush r1.2
        let sub2 := setWriter sub1 r2.2
        let j2 : Gen.Joe σ := { j1 with subscribers := mapSet j1.subscribers k sub2 }
        match r2.1 with
        | some e => failSub j2 k (some e)
        | none => j2
    else j

/-- what happens to one subscriber in a fan-out -/
inductive Outcome (σ : Type)
  | skipped                                              -- its topics do not meet the message's: no call at all
  | delivered (sub' : Gen.Subscription σ)                 -- one Send, one Flush, both succeeded
  | failed (e : Option String)                            -- one Send and, if that succeeded, one Flush; the first error

def outcome (msg : Gen.publishedMessage) (sub : Gen.Subscription σ) : Outcome σ :=
  if topicsIntersect sub.Topics msg.messageWithTopics.topics then
    let r1 := sub.Client.send sub.Client.st msg.messageWithTopics.message
    match r1.1 with
    | some e => .failed (some e)
    | none =>
      let r2 := (setWriter sub r1.2).Client.flush r1.2
      match r2.1 with
      | some e => .failed (some e)
      | none => .delivered (setWriter (setWriter sub r1.2) r2.2)
  else .skipped

/-- the topic lists are shorter than the fuel (the translated `topicsIntersect` is a loop) -/
def TopicsFit (fuel : Nat) (msg : Gen.publishedMessage) (j : Gen.Joe σ) : Prop :=
  msg.messageWithTopics.topics.length < fuel ∧ ∀ e ∈ j.subscribers, e.2.Topics.length < fuel

theorem topicsFit_of_sub {fuel : Nat} {msg : Gen.publishedMessage} {j j' : Gen.Joe σ} (h : TopicsFit fuel msg j)
    (hs : ∀ e ∈ j'.subscribers, ∃ e' ∈ j.subscribers, e.2.Topics = e'.2.Topics) : TopicsFit fuel msg j' := by
  refine ⟨h.1, ?_⟩
  intro e he
  obtain ⟨e', he', ht⟩ := hs e he
  rw [ht]; exact h.2 e' he'

theorem mem_mapSet_topics (m : List (Nat × Gen.Subscription σ)) (k : Nat) (v : Gen.Subscription σ) (sub : Gen.Subscription σ)
    (hk : (k, sub) ∈ m) (hv : v.Topics = sub.Topics) (e : Nat × Gen.Subscription σ) (h : e ∈ mapSet m k v) :
    ∃ e' ∈ m, e.2.Topics = e'.2.Topics := by
  unfold mapSet at h
  obtain ⟨e0, he0, rfl⟩ := List.mem_map.1 h
  by_cases hc : (e0.1 == k) = true
  · simp only [hc, if_true]
    exact ⟨(k, sub), hk, hv⟩
  · simp only [hc, if_false]
    exact ⟨e0, he0, rfl⟩

theorem removeSpec_subs (j : Gen.Joe σ) (k : Nat) (e : Nat × Gen.Subscription σ) (h : e ∈ (removeSpec j k).subscribers) :
    e ∈ j.subscribers := by
  unfold removeSpec at h
  split at h
  · exact MapL.mem_of_mem_del _ _ _ h
  · exact h

/-- a step at a registered key, by `outcome`; the entry's topics are never touched -/
theorem fanStep_cases (msg : Gen.publishedMessage) (j : Gen.Joe σ) (k : Nat) (sub : Gen.Subscription σ)
    (h : mapGet j.subscribers k = some sub) :
    (outcome msg sub = .skipped ∧ fanStep msg j k = j) ∨
    (∃ v, outcome msg sub = .delivered v ∧ fanStep msg j k = { j with subscribers := mapSet j.subscribers k v } ∧
      v.Topics = sub.Topics) ∨
    ∃ e v, outcome msg sub = .failed e ∧
      fanStep msg j k = failSub { j with subscribers := mapSet j.subscribers k v } k e ∧ v.Topics = sub.Topics := by
  rw [fanStep, h, outcome]
  dsimp only
  split
  · generalize sub.Client.send sub.Client.st msg.messageWithTopics.message = r1
    obtain ⟨_ | e1, st1⟩ := r1
    · dsimp only
      rw [MapL.set_set]
      generalize (setWriter sub st1).Client.flush st1 = r2
      obtain ⟨_ | e2, st2⟩ := r2
      · exact .inr (.inl ⟨_, rfl, rfl, rfl⟩)
      · exact .inr (.inr ⟨_, _, rfl, rfl, rfl⟩)
    · exact .inr (.inr ⟨_, _, rfl, rfl, rfl⟩)
  · exact .inl ⟨rfl, rfl⟩

theorem fanStep_fit (fuel : Nat) (msg : Gen.publishedMessage) (j : Gen.Joe σ) (k : Nat) (h : TopicsFit fuel msg j) :
    TopicsFit fuel msg (fanStep msg j k) := by
  cases hg : mapGet j.subscribers k with
  | none => rw [fanStep, hg]; exact h
  | some sub =>
    have hk := MapL.mem_of_get _ _ _ hg
    obtain ⟨_, e⟩ | ⟨v, _, e, hv⟩ | ⟨err, v, _, e, hv⟩ := fanStep_cases msg j k sub hg
    · rw [e]; exact h
    · rw [e]; exact topicsFit_of_sub h (mem_mapSet_topics _ k v sub hk hv)
    · rw [e]; exact topicsFit_of_sub h fun x hx => mem_mapSet_topics _ k v sub hk hv x (removeSpec_subs _ _ _ hx)

theorem fan_body (fuel : Nat) (pre suf : List Nat) (k : Nat) (j : Gen.Joe σ) (msg : Gen.publishedMessage)
    (hfit : TopicsFit fuel msg j) :
    Gen.Joe_fanout_loop1 fuel (pre ++ k :: suf) ((pre.length : Int), j, msg) =
      .ok (.next (((pre.length + 1 : Nat) : Int), fanStep msg j k, msg)) := by
  unfold Gen.Joe_fanout_loop1 fanStep
  dsimp only
  rw [if_pos (lt_len_mid pre suf k), idx_mid pre suf k, ok_bind]
  cases hg : mapGet j.subscribers k with
  | none => rfl
  | some sub =>
    show (Gen.topicsIntersect fuel sub.Topics msg.messageWithTopics.topics >>= _) = _
    rw [topicsIntersect_eq fuel _ _ (hfit.2 _ (MapL.mem_of_get _ _ _ hg)) hfit.1, ok_bind]
    dsimp only
    cases topicsIntersect sub.Topics msg.messageWithTopics.topics with
    | false => rfl
    | true =>
      simp only [removeSubscriber_eq]
      generalize sub.Client.send sub.Client.st msg.messageWithTopics.message = r1
      obtain ⟨_ | e1, st1⟩ := r1
      · dsimp only [setWriter]
        generalize sub.Client.flush st1 = r2
        obtain ⟨_ | e2, st2⟩ := r2 <;> rfl
      · rfl

theorem fan_body_end (fuel : Nat) (xs : List Nat) (j : Gen.Joe σ) (msg : Gen.publishedMessage) :
    Gen.Joe_fanout_loop1 fuel xs ((xs.length : Int), j, msg) = .ok (.brk ((xs.length : Int), j, msg)) := by
  unfold Gen.Joe_fanout_loop1
  simp [not_lt_len_end xs, pure, Except.pure]

theorem foldl_fit (fuel : Nat) (msg : Gen.publishedMessage) (ks : List Nat) (j : Gen.Joe σ) (h : TopicsFit fuel msg j) :
    TopicsFit fuel msg (ks.foldl (fanStep msg) j) := by
  induction ks generalizing j with
  | nil => exact h
  | cons k ks ih => exact ih _ (fanStep_fit fuel msg j k h)

theorem fanout_eq (fuel : Nat) (j : Gen.Joe σ) (msg : Gen.publishedMessage) (order : List Nat)
    (hf : order.length < fuel) (hfit : TopicsFit fuel msg j) :
    Gen.Joe_fanout fuel j msg order = .ok (order.foldl (fanStep msg) j) := by
  unfold Gen.Joe_fanout
  -- the loop state carries the message along, unchanged
  have hfold : ∀ (ks : List Nat) (j : Gen.Joe σ),
      ks.foldl (fun (p : Gen.Joe σ × Gen.publishedMessage) k => (fanStep p.2 p.1 k, p.2)) (j, msg) = (ks.foldl (fanStep msg) j, msg) := by
    intro ks
    induction ks with
    | nil => intro j; rfl
    | cons k ks ih => intro j; exact ih _
  have h := loopM_range (Gen.Joe_fanout_loop1 fuel order) (fun p k => (fanStep p.2 p.1 k, p.2)) (fun p => TopicsFit fuel p.2 p.1) order
    (fun pre k suf p hx hp => ⟨hx ▸ fan_body fuel pre suf k p.1 p.2 hp, fanStep_fit fuel p.2 p.1 k hp⟩)
    (fun p => fan_body_end fuel order p.1 p.2) fuel hf (j, msg) hfit
  simp only [bind, Except.bind, h, pure, Except.pure, hfold]

end GoSSE.GenEquiv
