import GoSSE.Proofs.GenEquiv
import GoSSE.Gen.Fields
import GoSSE.Model.Message
/-!
# The translated construction routes of `messageField` (message_fields.go) compute the model's

`newMessageField`, `(*messageField).UnmarshalText`, `NewID`, `NewType` as translated from /repo's current source
agree with `Model/Fields.lean` for every input: the same field, an error exactly when the model reports one.
Then `Message.appendText` (message.go), the `NextChunk` loop behind `AppendData` / `AppendComment`.
-/
namespace GoSSE.GenEquiv
open GoSSE GoSSE.GoRT GoSSE.Model

def toGenF (m : MField) : Gen.messageField := { value := m.value, set := m.set }

theorem newMessageField_eq (fuel : Nat) (v : Bytes) (hf : v.length < fuel) :
    Gen.newMessageField fuel v =
      .ok (toGenF (newMessageField v).1, if (newMessageField v).2 then some "input is multiline" else none) := by
  unfold Gen.newMessageField newMessageField
  rw [isSingleLine_eq fuel v hf, ok_bind]
  cases isSingleLine v <;> rfl

/-- `f, err := newMessageField(v); if err != nil { return err }; *i = f`, the receiver `*i` having been zeroed:
the common end of `UnmarshalText`, `UnmarshalJSON` and `Scan` -/
theorem assignField_eq (fuel : Nat) (v : Bytes) (hf : v.length < fuel) :
    (do
      let r ← Gen.newMessageField fuel v
      if (r.2 != none) then pure (r.2, ({ value := [], set := false } : Gen.messageField)) else pure (none, r.1) :
      GoM (Option String × Gen.messageField)) =
    .ok (if (newMessageField v).2 then (some "input is multiline", toGenF {}) else (none, toGenF (newMessageField v).1)) := by
  rw [newMessageField_eq fuel v hf, ok_bind]
  cases (newMessageField v).2 <;> rfl

theorem UnmarshalText_eq (fuel : Nat) (prev : Gen.messageField) (data : Bytes) (hf : data.length < fuel)
    (prevM : MField) :
    ∃ err, Gen.messageField_UnmarshalText fuel prev data = .ok (err, toGenF (MField.unmarshalText prevM data).1) ∧
      err.isSome = (MField.unmarshalText prevM data).2 := by
  refine ⟨if (newMessageField data).2 then some "input is multiline" else none, (assignField_eq fuel data hf).trans ?_, ?_⟩
  all_goals
    unfold MField.unmarshalText
    generalize newMessageField data = r
    obtain ⟨m, b⟩ := r
    cases b <;> rfl

theorem NewID_eq (fuel : Nat) (v : Bytes) (hf : v.length < fuel) :
    ∃ err, Gen.NewID fuel v = .ok ({ messageField := toGenF (newID v).1 }, err) ∧ err.isSome = (newID v).2 := by
  unfold Gen.NewID newID
  rw [newMessageField_eq fuel v hf, ok_bind]
  generalize newMessageField v = r
  obtain ⟨m, b⟩ := r
  cases b
  · exact ⟨none, rfl, rfl⟩
  · exact ⟨some "invalid event ID: %w", rfl, rfl⟩

theorem NewType_eq (fuel : Nat) (v : Bytes) (hf : v.length < fuel) :
    ∃ err, Gen.NewType fuel v = .ok ({ messageField := toGenF (newType v).1 }, err) ∧ err.isSome = (newType v).2 := by
  unfold Gen.NewType newType newID
  rw [newMessageField_eq fuel v hf, ok_bind]
  generalize newMessageField v = r
  obtain ⟨m, b⟩ := r
  cases b
  · exact ⟨none, rfl, rfl⟩
  · exact ⟨some "invalid event type: %w", rfl, rfl⟩

def gC (c : Chunk) : Gen.chunk := { content := c.content, isComment := c.isComment }

/-- the model's chunk list after appending all the strings -/
def appendAll (isComment : Bool) (strs : List Bytes) (cs : List Chunk) : List Chunk :=
  strs.foldl (fun cs c => appendLoop isComment c.length c cs) cs

theorem appendText_chunks (m : Message) (isComment : Bool) (strs : List Bytes) :
    (m.appendText isComment strs).chunks = appendAll isComment strs m.chunks := by
  unfold Message.appendText appendAll
  induction strs generalizing m with
  | nil => rfl
  | cons c t ih => simp only [List.foldl_cons]; rw [ih]

theorem appendLoop_nil (isComment : Bool) (m : Nat) (cs : List Chunk) : appendLoop isComment m [] cs = cs := by
  cases m <;> rfl

theorem appendLoop_succ (isComment : Bool) (m : Nat) (c : Bytes) (cs : List Chunk) (h : c ≠ []) :
    appendLoop isComment (m + 1) c cs =
      appendLoop isComment m (nextChunk c).2.1 (cs ++ [⟨(nextChunk c).1, isComment⟩]) := by
  rw [appendLoop, if_neg (mt List.isEmpty_iff.mp h)]

theorem appendLoop_fuel (isComment : Bool) : ∀ (m k : Nat) (c : Bytes) (cs : List Chunk), c.length ≤ m →
    appendLoop isComment (m + k) c cs = appendLoop isComment m c cs := by
  intro m
  induction m with
  | zero =>
    intro k c cs h
    rw [List.length_eq_zero_iff.mp (Nat.le_zero.mp h), appendLoop_nil, appendLoop_nil]
  | succ m ih =>
    intro k c cs h
    by_cases hc : c = []
    · rw [hc, appendLoop_nil, appendLoop_nil]
    · rw [Nat.add_right_comm m 1 k, appendLoop_succ isComment _ c cs hc, appendLoop_succ isComment _ c cs hc]
      exact ih k _ _ (by have := nextChunk_rem_lt c hc; omega)

theorem appendText_loop2_step (fuel : Nat) (isComment : Bool) (e : Gen.Message) (c content : Bytes)
    (hf : c.length < fuel) :
    Gen.Message_appendText_loop2 fuel isComment (e, c, content) =
      .ok (if c = [] then .brk (e, c, content) else
        .next ({ e with chunks := e.chunks ++ [({ content := (nextChunk c).1, isComment := isComment } : Gen.chunk)] },
               (nextChunk c).2.1, (nextChunk c).1)) := by
  unfold Gen.Message_appendText_loop2
  by_cases hc : c = []
  · subst hc; rfl
  · have c1 : (c != ([] : Bytes)) = true := bne_iff_ne.mpr hc
    simp only [c1, if_true, ok_bind, NextChunk_eq fuel c hf, hc, if_false]; rfl

theorem appendText_loop2_eq (fuel : Nat) (isComment : Bool) :
    ∀ (n m : Nat) (c : Bytes) (cs : List Chunk) (e : Gen.Message) (content : Bytes),
      c.length ≤ m → m < n → c.length < fuel → e.chunks = cs.map gC →
      ∃ content', loopM (Gen.Message_appendText_loop2 fuel isComment) n (e, c, content) =
        .ok (.inl ({ e with chunks := (appendLoop isComment m c cs).map gC }, [], content')) := by
  intro n
  induction n with
  | zero => intro m c cs e content _ h; omega
  | succ n ih =>
    intro m c cs e content hm hn hf he
    have hb := appendText_loop2_step fuel isComment e c content hf
    by_cases hc : c = []
    · subst hc
      rw [if_pos rfl] at hb
      refine ⟨content, ?_⟩
      rw [loopM_brk hb, appendLoop_nil, ← he]
    · rw [if_neg hc] at hb
      have hrem := nextChunk_rem_lt c hc
      obtain ⟨m', rfl⟩ : ∃ m', m = m' + 1 := ⟨m - 1, by omega⟩
      rw [loopM_next hb, appendLoop_succ isComment m' c cs hc]
      exact ih m' (nextChunk c).2.1 (cs ++ [⟨(nextChunk c).1, isComment⟩])
        { e with chunks := e.chunks ++ [⟨(nextChunk c).1, isComment⟩] } (nextChunk c).1 (by omega) (by omega) (by omega)
        (by show e.chunks ++ _ = _; rw [he, List.map_append]; rfl)

theorem appendText_eq (fuel : Nat) (e : Gen.Message) (isComment : Bool) (strs : List Bytes) (cs : List Chunk)
    (he : e.chunks = cs.map gC) (hf : ∀ c ∈ strs, c.length + 1 < fuel) (hn : strs.length < fuel) :
    Gen.Message_appendText fuel e isComment strs =
      .ok { e with chunks := (appendAll isComment strs cs).map gC } := by
  have h := loopM_fold strs (fun cs c => appendLoop isComment c.length c cs)
    (fun cs => ({ e with chunks := cs.map gC } : Gen.Message)) (fun _ => True)
    (Gen.Message_appendText_loop1 fuel isComment strs)
    (fun i h cs _ => by
      have hfc := hf strs[i] (List.getElem_mem h)
      obtain ⟨content', h2⟩ := appendText_loop2_eq fuel isComment fuel strs[i].length strs[i] cs
        { e with chunks := cs.map gC } [] (Nat.le_refl _) (by omega) (by omega) rfl
      refine ⟨?_, trivial⟩
      unfold Gen.Message_appendText_loop1
      simp only [len_eq, Int.ofNat_lt.mpr h, if_true, idx_ok strs i h, ok_bind, h2]; rfl)
    (fun cs => by unfold Gen.Message_appendText_loop1; rw [if_neg (not_lt_len_end strs)]; rfl)
    fuel 0 cs (Nat.zero_le _) (by omega) trivial
  have ee : ({ e with chunks := cs.map gC } : Gen.Message) = e := by rw [← he]
  rw [List.drop_zero, ee] at h
  -- `h` starts at `((0 : Nat) : Int)`; typed with the literal `(0 : Int)` of the translated code, `simp only [e0]` finds it
  have e0 : loopM (Gen.Message_appendText_loop1 fuel isComment strs) fuel ((0 : Int), e) = _ := h
  unfold Gen.Message_appendText
  simp only [ok_bind, e0]; rfl

theorem AppendData_eq (fuel : Nat) (e : Gen.Message) (strs : List Bytes) (cs : List Chunk)
    (he : e.chunks = cs.map gC) (hf : ∀ c ∈ strs, c.length + 1 < fuel) (hn : strs.length < fuel) :
    Gen.Message_AppendData fuel e strs = .ok { e with chunks := (appendAll false strs cs).map gC } := by
  unfold Gen.Message_AppendData
  simp only [bind, Except.bind, appendText_eq fuel e false strs cs he hf hn, pure, Except.pure]

theorem AppendComment_eq (fuel : Nat) (e : Gen.Message) (strs : List Bytes) (cs : List Chunk)
    (he : e.chunks = cs.map gC) (hf : ∀ c ∈ strs, c.length + 1 < fuel) (hn : strs.length < fuel) :
    Gen.Message_AppendComment fuel e strs = .ok { e with chunks := (appendAll true strs cs).map gC } := by
  unfold Gen.Message_AppendComment
  simp only [bind, Except.bind, appendText_eq fuel e true strs cs he hf hn, pure, Except.pure]

end GoSSE.GenEquiv
