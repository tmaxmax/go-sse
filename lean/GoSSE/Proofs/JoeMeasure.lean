import GoSSE.Proofs.JoeProgress
/-!
A measure on Joe's states that strictly decreases on every transition that is not the start of a
new call: every run without new calls is finite (bounded by the measure of its first state).
-/
namespace GoSSE.Proofs.Joe
open GoSSE.Model.Joe

theorem nodup_bounded_length (n : Nat) (l : List Nat) (hn : l.Nodup) (hb : ∀ x ∈ l, x < n) : l.length ≤ n :=
  List.length_range (n := n) ▸ hn.length_le_of_subset fun x hx => List.mem_range.mpr (hb x hx)

theorem length_erase_succ {α} [BEq α] [LawfulBEq α] {l : List α} {a : α} (h : a ∈ l) :
    (l.erase a).length + 1 = l.length := by
  have := List.length_pos_of_mem h
  rw [List.length_erase_of_mem h]; omega

def sumTo (f : Nat → Nat) : Nat → Nat
  | 0 => 0
  | n + 1 => sumTo f n + f n

theorem sumTo_congr {f g : Nat → Nat} (n : Nat) (h : ∀ j < n, f j = g j) : sumTo f n = sumTo g n := by
  induction n with
  | zero => rfl
  | succ n ih =>
    simp only [sumTo]
    rw [ih (fun j hj => h j (Nat.lt_succ_of_lt hj)), h n (Nat.lt_succ_self n)]

theorem sumTo_update (f g : Nat → Nat) (n k : Nat) (hk : k < n) (h : ∀ j, j ≠ k → g j = f j) :
    sumTo g n + f k = sumTo f n + g k := by
  induction n with
  | zero => cases hk
  | succ n ih =>
    simp only [sumTo]
    by_cases hkn : k = n
    · subst hkn
      rw [sumTo_congr k fun j hj => h j (Nat.ne_of_lt hj), Nat.add_right_comm, Nat.add_right_comm _ (f k)]
    · rw [h n fun e => hkn e.symm, Nat.add_right_comm, ih (Nat.lt_of_le_of_ne (Nat.le_of_lt_succ hk) hkn),
        Nat.add_right_comm]

theorem sumTo_upd {α} (m : α → Nat) (f : Nat → α) (n k : Nat) (v : α) (hk : k < n) :
    sumTo (fun i => m (upd f k v i)) n + m (f k) = sumTo (fun i => m (f i)) n + m v := by
  have := sumTo_update (fun i => m (f i)) (fun i => m (upd f k v i)) n k hk
    (fun j hj => congrArg m (upd_other f k j v hj))
  rwa [show m (upd f k v k) = m v from congrArg m (upd_same f k v)] at this

def subM (st : SubSt) : Nat :=
  (match st.pc with
    | .idle => 0 | .start => 4 | .waiting => 3 | .cancelled => 2 | .returned _ => 0) +
  (if st.ctxCancelled then 0 else 1)

def pubM (w : Nat) (st : PubSt) : Nat :=
  match st.pc with
  | .idle => 0 | .start => w | .handed _ => 1 | .returned _ => 0

def shutM (st : ShutSt) : Nat :=
  (match st.pc with
    | .idle => 0 | .start => 2 | .waiting => 1 | .returned _ => 0) +
  (if st.ctxDone then 0 else 1)

def loopM : JoePc → Nat
  | .idle => 1
  | .fanout _ rest => 2 * rest.length + 2
  | .failed _ _ rest => 2 * rest.length + 3
  | _ => 0

/-- the measure, for calls with identifiers below `nS`, `nP`, `nK`. Every state of a call weighs more than its successors. A visit
weighs 2, since a failed one takes two steps (`fanStep`, `fanRemove`). A publication not yet accepted weighs `2 * nS + 4`: more than
the fan-out over at most `nS` subscribers that accepting it starts (`2 * nS + 2`, against 1 for the idle loop) plus its weight
once handed over (1). -/
def mu (nS nP nK : Nat) (s : St) : Nat :=
  loopM s.joe + sumTo (fun i => subM (s.subs i)) nS + sumTo (fun p => pubM (2 * nS + 4) (s.pubs p)) nP +
    sumTo (fun k => shutM (s.shuts k)) nK

/-- the identifiers a label mentions are within bounds -/
def labelIn (nS nP nK : Nat) : Label → Prop
  | .subCall i | .subAccept i _ _ | .subClosedEarly i | .subSeeCancel i | .subRecv i | .unsubAccept i | .cancel i => i < nS
  | .fanStep i _ _ => i < nS
  | .pubCall p | .pubNoTopic p | .pubAccept p _ | .pubClosedEarly p | .pubRecv p => p < nP
  | .shutCall k | .shutClose k | .shutRecovered k | .shutSeeClosed k | .shutCtx k | .shutCancel k => k < nK
  | .fanRemove | .fanDone | .loopExit => True

def isCall : Label → Bool
  | .subCall _ | .pubCall _ | .shutCall _ => true
  | _ => false

def subsM (nS : Nat) (s : St) : Nat := sumTo (fun i => subM (s.subs i)) nS
def pubsM (nS nP : Nat) (s : St) : Nat := sumTo (fun p => pubM (2 * nS + 4) (s.pubs p)) nP
def shutsM (nK : Nat) (s : St) : Nat := sumTo (fun k => shutM (s.shuts k)) nK

theorem mu_eq (nS nP nK : Nat) (s : St) :
    mu nS nP nK s = loopM s.joe + subsM nS s + pubsM nS nP s + shutsM nK s := rfl

/-- how far a Subscribe call at this program counter is from having returned -/
def subPcM (pc : SubPc) : Nat := subM { pc := pc, ctxCancelled := true }

theorem subM_eq (st : SubSt) : subM st = subPcM st.pc + if st.ctxCancelled then 0 else 1 := rfl

theorem subM_lt (x y : SubPc) {a b : SubSt} (ha : a.pc = x) (hb : b.pc = y) (hc : a.ctxCancelled = b.ctxCancelled)
    (h : subPcM x < subPcM y) : subM a < subM b := by
  rw [subM_eq, subM_eq, ha, hb, hc]; exact Nat.add_lt_add_right h _

theorem subM_returned_lt {a b : SubSt} {r : Option Err} (ha : a.pc = .returned r)
    (hb : b.pc = .start ∨ b.pc = .waiting ∨ b.pc = .cancelled) (hc : a.ctxCancelled = b.ctxCancelled) :
    subM a < subM b := by
  rcases hb with hb | hb | hb <;> exact subM_lt _ _ ha hb hc (Nat.zero_lt_succ _)

theorem subM_congr {a b : SubSt} (hpc : a.pc = b.pc) (hc : a.ctxCancelled = b.ctxCancelled) : subM a = subM b := by
  rw [subM_eq, subM_eq, hpc, hc]

@[simp] theorem closedSub_subM (st : SubSt) (n : Nat) : subM (closedSub st n) = subM st := rfl

theorem subM_cancel {st : SubSt} (h : st.ctxCancelled = false) : subM { st with ctxCancelled := true } < subM st := by
  rw [subM_eq, subM_eq, h]; exact Nat.lt_succ_self _

theorem pubM_start {w : Nat} {st : PubSt} (h : st.pc = .start) : pubM w st = w := by rw [pubM, h]
theorem pubM_handed {w : Nat} {st : PubSt} {e : Option Err} (h : st.pc = .handed e) : pubM w st = 1 := by rw [pubM, h]
theorem pubM_returned {w : Nat} {st : PubSt} {r : Option Err} (h : st.pc = .returned r) : pubM w st = 0 := by rw [pubM, h]

/-- how far a Shutdown call at this program counter is from having returned -/
def shutPcM (pc : ShutPc) : Nat := shutM { pc := pc, ctxDone := true }

theorem shutM_eq (st : ShutSt) : shutM st = shutPcM st.pc + if st.ctxDone then 0 else 1 := rfl

theorem shutM_lt (x y : ShutPc) {a b : ShutSt} (ha : a.pc = x) (hb : b.pc = y) (hc : a.ctxDone = b.ctxDone)
    (h : shutPcM x < shutPcM y) : shutM a < shutM b := by
  rw [shutM_eq, shutM_eq, ha, hb, hc]; exact Nat.add_lt_add_right h _

theorem shutM_cancel {st : ShutSt} (h : st.ctxDone = false) : shutM { st with ctxDone := true } < shutM st := by
  rw [shutM_eq, shutM_eq, h]; exact Nat.lt_succ_self _

theorem mu_sub_lt {nS nP nK : Nat} {s s' : St} {k : SubId} {st : SubSt} (hk : k < nS)
    (hsub : s'.subs = upd s.subs k st) (hp : s'.pubs = s.pubs) (hsh : s'.shuts = s.shuts) (hj : s'.joe = s.joe)
    (h : subM st < subM (s.subs k)) : mu nS nP nK s' < mu nS nP nK s := by
  have := sumTo_upd subM s.subs nS k st hk
  simp only [mu_eq, subsM, pubsM, shutsM, hsub, hp, hsh, hj]
  omega

theorem mu_pub_lt {nS nP nK : Nat} {s s' : St} {p : PubId} {v : PubSt} (hp : p < nP)
    (hpub : s'.pubs = upd s.pubs p v) (hsub : s'.subs = s.subs) (hsh : s'.shuts = s.shuts)
    (h : loopM s'.joe + pubM (2 * nS + 4) v < loopM s.joe + pubM (2 * nS + 4) (s.pubs p)) :
    mu nS nP nK s' < mu nS nP nK s := by
  have := sumTo_upd (pubM (2 * nS + 4)) s.pubs nP p v hp
  simp only [mu_eq, subsM, pubsM, shutsM, hpub, hsub, hsh]
  omega

theorem mu_shut_lt {nS nP nK : Nat} {s s' : St} {k : ShutId} {v : ShutSt} (hk : k < nK)
    (hshut : s'.shuts = upd s.shuts k v) (hsub : s'.subs = s.subs) (hp : s'.pubs = s.pubs) (hj : s'.joe = s.joe)
    (h : shutM v < shutM (s.shuts k)) : mu nS nP nK s' < mu nS nP nK s := by
  have := sumTo_upd shutM s.shuts nK k v hk
  simp only [mu_eq, subsM, pubsM, shutsM, hshut, hsub, hp, hj]
  omega

theorem mu_loop_lt {nS nP nK : Nat} {s s' : St} (hsub : ∀ i, subM (s'.subs i) = subM (s.subs i))
    (hp : s'.pubs = s.pubs) (hsh : s'.shuts = s.shuts) (h : loopM s'.joe < loopM s.joe) :
    mu nS nP nK s' < mu nS nP nK s := by
  have : subsM nS s' = subsM nS s := sumTo_congr nS fun j _ => hsub j
  simp only [mu_eq, this, pubsM, shutsM, hp, hsh]
  omega

theorem step_mu_decreases {c : Cfg} {s s' : St} (nS nP nK : Nat) (hi : Inv s)
    (hsub : ∀ i ∈ s.subscribers, i < nS) (l : Label) (hl : labelIn nS nP nK l) (hc : isCall l = false)
    (hs : step c s l = some s') : mu nS nP nK s' < mu nS nP nK s := by
  cases step_trans hi hs with
  | subCall | pubCall | shutCall => cases hc
  | subAccept i rc o hpc =>
    exact mu_sub_lt hl rfl rfl rfl rfl (subM_lt .waiting .start rfl hpc rfl (by decide))
  | subAcceptErr i rc hpc =>
    exact mu_sub_lt hl rfl rfl rfl rfl (subM_lt .waiting .start rfl hpc rfl (by decide))
  | subClosedEarly i hpc => exact mu_sub_lt hl rfl rfl rfl rfl (subM_returned_lt rfl (Or.inl hpc) rfl)
  | subSeeCancel i hpc =>
    exact mu_sub_lt hl rfl rfl rfl rfl (subM_lt .cancelled .waiting rfl hpc rfl (by decide))
  | subRecvErr i e hpc => exact mu_sub_lt hl rfl rfl rfl rfl (subM_returned_lt rfl (Or.inr hpc) rfl)
  | subRecvClosed i hpc => exact mu_sub_lt hl rfl rfl rfl rfl (subM_returned_lt rfl (Or.inr hpc) rfl)
  | unsubAcceptMem i hpc => exact mu_sub_lt hl rfl rfl rfl rfl (subM_returned_lt rfl (Or.inr (Or.inr hpc)) rfl)
  | unsubAcceptGone i hpc => exact mu_sub_lt hl rfl rfl rfl rfl (subM_returned_lt rfl (Or.inr (Or.inr hpc)) rfl)
  | cancel i hcx => exact mu_sub_lt hl rfl rfl rfl rfl (subM_cancel hcx)
  | pubNoTopic p hpc =>
    refine mu_pub_lt hl rfl rfl rfl ?_
    rw [pubM_start hpc, pubM_returned rfl]; exact Nat.add_lt_add_left (Nat.zero_lt_succ _) _
  | pubClosedEarly p hpc =>
    refine mu_pub_lt hl rfl rfl rfl ?_
    rw [pubM_start hpc, pubM_returned rfl]; exact Nat.add_lt_add_left (Nat.zero_lt_succ _) _
  | pubRecv p e hpc =>
    refine mu_pub_lt hl rfl rfl rfl ?_
    rw [pubM_handed hpc, pubM_returned rfl]; exact Nat.add_lt_add_left (Nat.zero_lt_succ _) _
  | pubAccept p o hpc hj =>
    have hlen := nodup_bounded_length nS _
      (hi.nodup.filter fun i => matchesP c i p)
      (fun x hx => hsub x (List.mem_filter.mp hx).1)
    refine mu_pub_lt hl rfl rfl rfl ?_
    rw [pubM_start hpc, pubM_handed rfl, hj]
    simp only [loopM]; omega
  | fanStepOk i a b p rest hj hm =>
    have := length_erase_succ hm
    refine mu_loop_lt (fun k => upd_proj subM s.subs _ fun _ => subM_congr rfl rfl) rfl rfl ?_
    rw [hj]; simp only [loopM]; omega
  | fanStepFail i a b p rest hj hm =>
    have := length_erase_succ hm
    refine mu_loop_lt (fun k => upd_proj subM s.subs _ fun _ => subM_congr rfl rfl) rfl rfl ?_
    rw [hj]; simp only [loopM]; omega
  | fanRemove p i rest hj =>
    refine mu_loop_lt (fun k => upd_proj subM s.subs _ fun _ => closedSub_subM _ _) rfl rfl ?_
    rw [hj]; exact Nat.lt_succ_self _
  | fanDone p hj => exact mu_loop_lt (fun _ => rfl) rfl rfl (by rw [hj]; exact Nat.lt_succ_self 1)
  | loopExit hj =>
    refine mu_loop_lt (fun k => ?_) rfl rfl (by rw [hj]; exact Nat.zero_lt_succ 0)
    show subM (if k ∈ s.subscribers then closedSub (s.subs k) s.log.length else s.subs k) = _
    split <;> rfl
  | shutClose k hpc =>
    exact mu_shut_lt hl rfl rfl rfl rfl (shutM_lt .waiting .start rfl hpc rfl (by decide))
  | shutRecovered k hpc =>
    exact mu_shut_lt hl rfl rfl rfl rfl (shutM_lt _ .start rfl hpc rfl (Nat.zero_lt_succ _))
  | shutSeeClosed k hpc =>
    exact mu_shut_lt hl rfl rfl rfl rfl (shutM_lt _ .waiting rfl hpc rfl (Nat.zero_lt_succ _))
  | shutCtx k hpc =>
    exact mu_shut_lt hl rfl rfl rfl rfl (shutM_lt _ .waiting rfl hpc rfl (Nat.zero_lt_succ _))
  | shutCancel k hx => exact mu_shut_lt hl rfl rfl rfl rfl (shutM_cancel hx)

/-- all Subscribe calls made so far have identifiers below `nS` -/
def SubsBelow (nS : Nat) (s : St) : Prop := ∀ j, nS ≤ j → (s.subs j).pc = .idle

theorem labelIn_subject {nS nP nK : Nat} {l : Label} {j : SubId} (hl : labelIn nS nP nK l) (e : pcSubject l = some j) :
    j < nS := by
  cases l with
  | subCall i | subAccept i | subClosedEarly i | subSeeCancel i | subRecv i | unsubAccept i => cases e; exact hl
  | _ => cases e

theorem subsBelow_step {c : Cfg} {s s' : St} {nS nP nK : Nat} (hi : Inv s) (hb : SubsBelow nS s) (l : Label)
    (hl : labelIn nS nP nK l) (hs : step c s l = some s') : SubsBelow nS s' := by
  intro j hj
  rw [((step_trans hi hs).pc_frame j).resolve_left fun e => Nat.not_lt.mpr hj (labelIn_subject hl e.1)]
  exact hb j hj

theorem subscribers_below {s : St} {nS : Nat} (hi : Inv s) (hb : SubsBelow nS s) : ∀ i ∈ s.subscribers, i < nS := by
  intro i him
  cases Nat.lt_or_ge i nS with
  | inl h => exact h
  | inr h => exact absurd him (hi.fresh i (Or.inl (hb i h))).2

/-- **Every run without new calls is finite**: its length plus the measure of its last state is at most
the measure of its first state. -/
theorem run_bounded {c : Cfg} {s s' : St} {ls : List Label} (nS nP nK : Nat) (h : Reachable c s)
    (hb : SubsBelow nS s) (r : Run c s ls s')
    (hls : ∀ l ∈ ls, isCall l = false ∧ labelIn nS nP nK l) :
    ls.length + mu nS nP nK s' ≤ mu nS nP nK s := by
  induction r with
  | nil => simp
  | @cons s0 s1 s2 l ls' hs r' ih =>
    have hi := (reachable_all h).1
    obtain ⟨hc, hl⟩ := hls l (by simp)
    have hdec := step_mu_decreases nS nP nK hi (subscribers_below hi hb) l hl hc hs
    have := ih (Reachable.step h hs) (subsBelow_step hi hb l hl hs) (fun l' hl' => hls l' (by simp [hl']))
    simp only [List.length_cons]
    omega

end GoSSE.Proofs.Joe
