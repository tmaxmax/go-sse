import GoSSE.Proofs.ParserRun
import GoSSE.Proofs.ParserPulled
/-!
`FitsLimit`: every event of the stream (with the blank lines before it and the terminator of
its closing blank line) is shorter than the scanner's limit — then `ErrTooLong` cannot occur.
-/
namespace GoSSE.Proofs
open GoSSE GoSSE.Spec GoSSE.Model

/-- Cut the stream at the event boundaries (`pieceLen`): every complete piece is shorter than
`L`, and the unfinished remainder `R` at the end satisfies `|R| + 1 < L` (one byte of slack: the
LF of a CRLF that closed the previous event may still be pending in front of it). -/
inductive FitsLimit (L : Nat) : Bytes → Prop
  | rest (R : Bytes) (h : pieceLen R 0 = none) (hl : R.length + 1 < L) : FitsLimit L R
  | piece (R : Bytes) (n : Nat) (h : pieceLen R 0 = some n) (hl : n < L) (ht : FitsLimit L (R.drop n)) :
      FitsLimit L R

/-- what the scanner still has to deliver fits: possibly after the pending LF of a CRLF whose
CR ended the previous token -/
def Fit (L : Nat) (R : Bytes) : Prop := FitsLimit L R ∨ ∃ R', R = 10 :: R' ∧ FitsLimit L R'

theorem sigma_lastIsNl (T : Bytes) (h : LastIsNl T) :
    sigma T = 2 ∨ (sigma T = 3 ∧ T.getLast? = some 13) := by
  obtain ⟨b, hb1, hb2⟩ := h
  rcases (isNl_true_iff b).1 hb2 with h | h <;> subst h
  · exact .inl (by simp [sigma, hb1])
  · exact .inr ⟨by simp [sigma, hb1], hb1⟩

theorem pieceLen_closing {T nl rest : Bytes} (hl : LastIsNl T) (hcr : T.getLast? = some 13 → nl.head? ≠ some 10)
    (hnl : IsTerm nl rest) (X : Bytes) :
    ∃ k, pieceLen (nl ++ (rest ++ X)) (sigma T) = some k ∧
      (k = nl.length ∨ (k = nl.length + 1 ∧ rest = [] ∧ X.head? = some 10)) := by
  have hσ := sigma_lastIsNl T hl
  have hge : 2 ≤ sigma T := by omega
  rcases hnl with rfl | rfl | ⟨rfl, hr'⟩
  · rcases hσ with h2 | ⟨_, h13⟩
    · exact ⟨1, by rw [h2]; exact pieceLen_lf_close _, .inl rfl⟩
    · exact absurd rfl (hcr h13)
  · exact ⟨2, by rw [List.cons_append, pieceLen_cr_close _ _ hge]; rfl, .inl rfl⟩
  · rw [List.cons_append, pieceLen_cr_close _ _ hge, List.nil_append]
    by_cases hx : (rest ++ X).head? = some 10
    · refine ⟨2, by rw [if_pos (beq_iff_eq.2 hx)], .inr ⟨rfl, ?_⟩⟩
      cases rest with
      | nil => exact ⟨rfl, hx⟩
      | cons c rest' => exact absurd hx hr'
    · exact ⟨1, by rw [if_neg (fun h => hx (beq_iff_eq.1 h))], .inl rfl⟩

/-- a token returned by `splitFunc` ends where the first piece of the stream ends — or one byte
earlier, when the buffer ended with the CR of a CRLF -/
theorem split_tok_piece (D : Bytes) (e : Bool) (adv : Nat) (tok : Bytes) (h : splitFunc D e = (adv, some tok))
    (X : Bytes) :
    (e = true ∧ adv = D.length) ∨
    ∃ n, pieceLen (D ++ X) 0 = some n ∧ (n = adv ∨ (n = adv + 1 ∧ adv = D.length ∧ X.head? = some 10)) := by
  cases splitFunc_cases D e with
  | empty hd hr => rw [hr] at h; cases h
  | more B T he hd hB hT _ hr => rw [hr] at h; cases h
  | final B T he hd hne hB hT _ hr =>
    rw [hr] at h
    exact .inl ⟨he, (Prod.mk.inj h).1.symm⟩
  | tok B T nl rest hd hB hT hl hcr hnl hphi hr =>
    right
    rw [hr] at h
    have hadv : B.length + T.length + nl.length = adv := by
      rw [← (Prod.mk.inj h).1]; simp only [List.length_append]
    obtain ⟨k, hk, hk2⟩ := pieceLen_closing hl hcr hnl X
    rw [show D ++ X = B ++ T ++ (nl ++ (rest ++ X)) by rw [hd]; simp only [List.append_assoc], hphi]
    refine ⟨k + (B.length + T.length), by rw [hk]; rfl, ?_⟩
    rcases hk2 with h1 | ⟨h1, rfl, h3⟩
    · left; omega
    · right
      rw [hd, List.append_nil, List.length_append, List.length_append]
      exact ⟨by omega, hadv.symm, h3⟩

theorem split_none_piece (D : Bytes) (h : splitFunc D false = (0, none)) (X : Bytes) (n : Nat)
    (hp : pieceLen (D ++ X) 0 = some n) : D.length < n := by
  cases splitFunc_cases D false with
  | empty hd hr => subst hd; exact pieceLen_pos _ _ _ hp
  | more B T he hd hB hT hphi hr =>
    have e1 : D ++ X = B ++ T ++ X := by rw [hd]
    rw [e1, hphi] at hp
    cases hq : pieceLen X (sigma T) with
    | none => simp [hq] at hp
    | some m =>
      have := pieceLen_pos _ _ _ hq
      simp [hq] at hp
      rw [hd]; simp only [List.length_append]; omega
  | tok B T nl rest hd hB hT hl hcr hnl _ hr =>
    rw [hr] at h; simp at h
  | final B T he hd hne hB hT _ hr => simp at he

theorem pieceLen_lf (R : Bytes) : pieceLen (10 :: R) 0 = (pieceLen R 0).map (· + 1) := by
  simp [pieceLen, isNl]

theorem fit_cases {L : Nat} {R : Bytes} (h : Fit L R) :
    (pieceLen R 0 = none ∧ R.length < L) ∨ ∃ n, pieceLen R 0 = some n ∧ n ≤ L ∧ FitsLimit L (R.drop n) := by
  rcases h with hf | ⟨R', rfl, hf⟩
  · cases hf with
    | rest _ hp hl => exact .inl ⟨hp, Nat.lt_of_succ_lt hl⟩
    | piece _ n hp hl ht => exact .inr ⟨n, hp, Nat.le_of_lt hl, ht⟩
  · rw [pieceLen_lf]
    cases hf with
    | rest _ hp hl => exact .inl ⟨by rw [hp]; rfl, hl⟩
    | piece _ n hp hl ht => exact .inr ⟨n + 1, by rw [hp]; rfl, hl, ht⟩

theorem fit_visible (L : Nat) (R D X : Bytes) (hfit : Fit L R) (hR : R = D ++ X)
    (h : splitFunc D false = (0, none)) : D.length < L := by
  rcases fit_cases hfit with ⟨_, hl⟩ | ⟨n, hp, hl, _⟩
  · rw [hR, List.length_append] at hl; omega
  · have := split_none_piece D h X n (hR ▸ hp); omega

theorem fit_step (L : Nat) (R D X : Bytes) (e : Bool) (adv : Nat) (tok : Bytes) (hfit : Fit L R)
    (hR : R = D ++ X) (h : splitFunc D e = (adv, some tok)) :
    (e = true ∧ adv = D.length) ∨ Fit L (R.drop adv) := by
  rcases split_tok_piece D e adv tok h X with hl | ⟨n, hn, hcase⟩
  · exact .inl hl
  right
  rw [← hR] at hn
  have htail : FitsLimit L (R.drop n) := by
    rcases fit_cases hfit with ⟨hp, _⟩ | ⟨n', hp, _, ht⟩
    · rw [hp] at hn; cases hn
    · rw [hp] at hn; cases hn; exact ht
  rcases hcase with h1 | ⟨h1, h2, h3⟩
  · subst h1; exact .inl htail
  · right
    have hdrop : R.drop adv = X := by rw [hR, h2]; simp
    cases X with
    | nil => simp at h3
    | cons c X' =>
      simp at h3; subst h3
      refine ⟨X', hdrop, ?_⟩
      have : R.drop n = X' := by
        rw [h1, ← List.drop_drop, hdrop]; rfl
      rw [← this]; exact htail

/-- scanner invariant: `L = max cap0 M.toNat` is the limit, and unless the input is exhausted
what remains fits -/
structure KInv (L : Nat) (M : Int) (cap0 : Nat) (s : Scanner) : Prop where
  inv : SInv s
  maxTok : s.maxTok = M
  cap : cap0 ≤ s.bufLen
  noTooLong : s.err ≠ some .tooLong
  fit : s.err.isSome = true ∨ Fit L (remaining s)

theorem sinv_no_toolong (s : Scanner) (h : SInv s) : s.err ≠ some .tooLong := by
  intro he
  have := (h.errEnd _ he).1
  simp only [endE] at this
  split at this <;> cases this

theorem scan_kinv (L : Nat) (M : Int) (cap0 : Nat) (hL : L = max cap0 M.toNat) (s : Scanner)
    (hk : KInv L M cap0 s) : KInv L M cap0 (Scanner.scan (s.src.size + s.data.length + 4) s).2 := by
  have hscan := scan_spec_parser s hk.inv
  generalize Scanner.scan (s.src.size + s.data.length + 4) s = r at hscan
  cases hscan with
  | tok D adv tok s' hrem hsplit hdata hinv hcfg hwt =>
    refine ⟨hinv, hcfg.maxTok.trans hk.maxTok, Nat.le_trans hk.cap hcfg.bufLo, sinv_no_toolong s' hinv, ?_⟩
    by_cases he : s'.err.isSome = true
    · exact .inl he
    · right
      have hsnone : ¬ s.err.isSome = true := fun h => he (hcfg.errMono h)
      have hfit : Fit L (remaining s) := by
        rcases hk.fit with h | h
        · exact absurd h hsnone
        · exact h
      have he' : s'.err.isSome = false := by simpa using he
      rw [he'] at hsplit
      rcases fit_step L (remaining s) D _ false adv tok hfit hrem hsplit with ⟨h, _⟩ | h
      · simp at h
      · have hle := sf_adv_le D false
        rw [hsplit] at hle
        have : remaining s' = (remaining s).drop adv := by
          rw [hrem, remaining, hdata, List.drop_append_of_le_length hle]
        rw [this]; exact h
  | tooLong D s' herr hnone hrem hsplit hdata hfull hlim hcfg =>
    exfalso
    have hfit : Fit L (remaining s) := by
      rcases hk.fit with h | h
      · rw [hnone] at h; simp at h
      · exact h
    have hlt := fit_visible L (remaining s) D _ hfit hrem hsplit
    have h1 : cap0 ≤ s'.bufLen := Nat.le_trans hk.cap hcfg.bufLo
    have h2 : s'.maxTok = M := hcfg.maxTok.trans hk.maxTok
    rw [h2] at hlim
    rw [hfull, hL] at hlt
    omega
  | done s' herr hrem hdata hsrc hinv hcfg =>
    refine ⟨hinv, hcfg.maxTok.trans hk.maxTok, Nat.le_trans hk.cap hcfg.bufLo, sinv_no_toolong s' hinv, .inl ?_⟩
    simp [herr]

theorem parserErr_toolong (p : Parser) (h : p.err = PErr.tooLong) : p.sc.err = some .tooLong := by
  -- `Parser.Err` is the scanner's error `e` if there is one, else one of three others
  have hsc : ∀ e : PErr, (if (e != .none) = true then e else if p.fp.err = true then .unexpectedEOF
      else if p.gone = true then .eof else .none) = PErr.tooLong → e = .tooLong := by
    intro e he
    by_cases hne : (e != .none) = true
    · rwa [if_pos hne] at he
    · rw [if_neg hne] at he
      split at he
      · cases he
      · split at he <;> cases he
  have h1 := hsc _ h
  cases hg : p.gone with
  | true => rw [hg, if_pos rfl] at h1; cases h1
  | false =>
    rw [hg, if_neg Bool.false_ne_true] at h1
    cases he : p.sc.err with
    | none => rw [he] at h1; cases h1
    | some e =>
      rw [he] at h1
      cases e with
      | tooLong => rfl
      | read => cases h1
      | eof => cases h1

theorem fits_no_toolong (conn : Bool) (lastID : Bytes) (src : Source) (cfg : Option (Nat × Int))
    (stopAt : Option Nat) (hfit : FitsLimit (limitOf cfg) src.chunks.flatten) :
    (implRun conn lastID src cfg stopAt).2.1 ≠ PErr.tooLong := by
  intro h
  have herr := parserErr_toolong _ (finish_tooLong conn stopAt _ h)
  obtain ⟨hsinv, hrem, hsrc, hdata⟩ := mkScanner_facts src cfg
  have hlim : limitOf cfg = max (mkScanner src cfg).bufLen (mkScanner src cfg).maxTok.toNat := by
    obtain ⟨b, M, hmk, hl⟩ := mkScanner_eq src cfg
    rw [hmk]; exact hl
  have hk0 : KInv (limitOf cfg) (mkScanner src cfg).maxTok (mkScanner src cfg).bufLen (mkScanner src cfg) :=
    ⟨hsinv, rfl, Nat.le_refl _, sinv_no_toolong _ hsinv, .inr (.inl (by rw [hrem]; exact hfit))⟩
  have hkf := readLoop_sc (KInv (limitOf cfg) (mkScanner src cfg).maxTok (mkScanner src cfg).bufLen)
    (scan_kinv _ _ _ hlim) conn stopAt (src.size + 4) { sc := mkScanner src cfg }
    { lastID := lastID } [] hk0
  exact hkf.noTooLong herr

end GoSSE.Proofs
