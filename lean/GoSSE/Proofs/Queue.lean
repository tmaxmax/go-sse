import GoSSE.Model.Finite
import GoSSE.Model.Valid
/-!
The ring buffer `queue` of `replay.go`: the abstraction `abs`, the invariant `WF`, the index
arithmetic of the ring (`idx`); `enqueue` read as `push`, or `pop` then `push` when full, and
`dequeue` as `pop` with the vacated slot zeroed. In front, the facts about plain lists that the queue files use.
-/
namespace GoSSE.Proofs
open GoSSE GoSSE.Spec GoSSE.Model

theorem filterMap_id_map_some {α : Type _} (l : List α) : (l.map some).filterMap id = l :=
  List.filterMap_map.trans List.filterMap_some

theorem map_range'_congr {α : Type _} {f g : Nat → α} {a b n : Nat} (h : ∀ t, t < n → f (a + t) = g (b + t)) :
    (List.range' a n).map f = (List.range' b n).map g := by
  rw [List.range'_eq_map_range, List.range'_eq_map_range (s := b), List.map_map, List.map_map]
  exact List.map_congr_left fun t ht => h t (List.mem_range.1 ht)

theorem take_append_replicate {α : Type _} {a : α} (l : List α) (n : Nat) (h : ∀ x ∈ l, x = a) :
    l.take n ++ List.replicate (n - l.length) a = List.replicate n a :=
  List.eq_replicate_iff.2 ⟨by rw [List.length_append, List.length_take, List.length_replicate]; omega, fun x hx =>
    (List.mem_append.1 hx).elim (fun hx => h x (List.mem_of_mem_take hx)) fun hx => (List.mem_replicate.1 hx).2⟩

theorem append_replicate_getElem? (l : List Slot) (m i : Nat) (h1 : l.length ≤ i) (h2 : i < l.length + m) :
    (l ++ List.replicate m none)[i]? = some none := by
  rw [List.getElem?_append_right h1, List.getElem?_replicate, if_pos (by omega)]

theorem takeLast_getElem? {α : Type _} (n : Nat) (l : List α) (i : Nat) :
    (takeLast n l)[i]? = l[l.length - n + i]? := by
  simp [takeLast]

theorem takeLast_length {α : Type _} (n : Nat) (l : List α) : (takeLast n l).length = l.length - (l.length - n) := by
  simp [takeLast]

theorem takeLast_map {α β : Type _} (f : α → β) (n : Nat) (l : List α) : takeLast n (l.map f) = (takeLast n l).map f := by
  simp [takeLast, List.map_drop]

theorem takeLast_all {α : Type _} (n : Nat) (l : List α) (h : l.length ≤ n) : takeLast n l = l := by
  simp [takeLast, Nat.sub_eq_zero_of_le h]

/-- `i` below `2 * n` brought back below `n` the way the Go code wraps an index: one
conditional subtraction, no `%` -/
def wrap (n i : Nat) : Nat := if i < n then i else i - n

/-- index of the `k`-th live element -/
def idx (q : Queue) (k : Nat) : Nat :=
  if q.head + k < q.buf.length then q.head + k else q.head + k - q.buf.length

/-- content of slot `i` (`none` also when out of range; only used below `buf.length`) -/
def slotAt (q : Queue) (i : Nat) : Slot := (q.buf[i]?).join

/-- the `count` slots from `head`, in order -/
def slots (q : Queue) : List Slot := (List.range q.count).map fun k => slotAt q (idx q k)

/-- the abstraction: the stored entries, oldest first -/
def abs (q : Queue) : List Entry := (slots q).filterMap id

/-- index `i` lies in the live range -/
def isLive (q : Queue) (i : Nat) : Prop :=
  if q.head + q.count ≤ q.buf.length then q.head ≤ i ∧ i < q.head + q.count
  else q.head ≤ i ∨ i + q.buf.length < q.head + q.count

structure WF (q : Queue) : Prop where
  cnt : q.count ≤ q.buf.length
  hd : q.head < q.buf.length ∨ (q.buf.length = 0 ∧ q.head = 0)
  tl : q.tail < q.buf.length ∨ (q.buf.length = 0 ∧ q.tail = 0)
  ring : q.head + q.count = q.tail ∨ q.head + q.count = q.tail + q.buf.length
  live : ∀ k, k < q.count → ∃ e, q.buf[idx q k]? = some (some e)

/-- every slot outside the live range holds the zero value (C18, ValidReplayer) -/
def DeadZero (q : Queue) : Prop := ∀ i, i < q.buf.length → ¬ isLive q i → q.buf[i]? = some none

/-- the slot after `i` (for `i < buf.length`) -/
def wrapSucc (q : Queue) (i : Nat) : Nat := if i + 1 = q.buf.length then 0 else i + 1

/-- the conditional in the form `omega` can use (`idx q k` is `wrap q.buf.length (q.head + k)`) -/
theorem wrap_spec (n i : Nat) : (i < n ∧ wrap n i = i) ∨ (n ≤ i ∧ wrap n i + n = i) := by
  unfold wrap; split <;> omega

theorem wrap_of_lt {n i : Nat} (h : i < n) : wrap n i = i := if_pos h

theorem wrap_of_ge {n i : Nat} (h : n ≤ i) : wrap n i = i - n := if_neg (Nat.not_lt.2 h)

theorem idx_spec (q : Queue) (k : Nat) :
    (q.head + k < q.buf.length ∧ idx q k = q.head + k) ∨
    (q.buf.length ≤ q.head + k ∧ idx q k + q.buf.length = q.head + k) :=
  wrap_spec _ _

theorem wrapSucc_eq_wrap {q : Queue} {i : Nat} (hi : i < q.buf.length) :
    wrapSucc q i = wrap q.buf.length (i + 1) := by
  have := wrap_spec q.buf.length (i + 1)
  unfold wrapSucc; split <;> omega

theorem idx_zero {q : Queue} (hd : q.head < q.buf.length ∨ (q.buf.length = 0 ∧ q.head = 0)) :
    idx q 0 = q.head := by
  have := idx_spec q 0; omega

theorem idx_lt {q : Queue} {k : Nat} (hd : q.head < q.buf.length) (hk : k ≤ q.buf.length) :
    idx q k < q.buf.length := by
  have := idx_spec q k; omega

theorem wrapSucc_lt {q : Queue} {i : Nat} (hi : i < q.buf.length) : wrapSucc q i < q.buf.length := by
  unfold wrapSucc; split <;> omega

theorem idx_add {q : Queue} {k t : Nat} (hd : q.head < q.buf.length) (hk : k + t ≤ q.buf.length) :
    idx q (k + t) = wrap q.buf.length (idx q k + t) := by
  show wrap _ (q.head + (k + t)) = wrap _ (wrap _ (q.head + k) + t)
  by_cases h : q.head + k < q.buf.length
  · rw [wrap_of_lt h, Nat.add_assoc]
  · have h := Nat.le_of_not_lt h
    rw [wrap_of_ge h, wrap_of_ge (by omega), wrap_of_lt (by omega)]; omega

theorem idx_succ {q : Queue} {k : Nat} (hd : q.head < q.buf.length) (hk : k < q.buf.length) :
    idx q (k + 1) = wrapSucc q (idx q k) := by
  rw [wrapSucc_eq_wrap (idx_lt hd (by omega))]; exact idx_add hd hk

theorem idx_ne {q : Queue} {j k : Nat} (hjk : j < k) (hk : k < j + q.buf.length) :
    idx q j ≠ idx q k := by
  have := idx_spec q j; have := idx_spec q k; omega

theorem idx_congr {q q' : Queue} (hh : q'.head = q.head) (hl : q'.buf.length = q.buf.length) (k : Nat) :
    idx q' k = idx q k := by
  simp only [idx, hh, hl]

theorem isLive_iff {q : Queue} {i : Nat} (hd : q.head < q.buf.length) (hi : i < q.buf.length) :
    isLive q i ↔ ∃ k, k < q.count ∧ idx q k = i := by
  unfold isLive
  constructor
  · intro hl
    by_cases hle : q.head ≤ i
    · refine ⟨i - q.head, by split at hl <;> omega, ?_⟩
      rw [idx, Nat.add_sub_cancel' hle, if_pos hi]
    · refine ⟨i + q.buf.length - q.head, by split at hl <;> omega, ?_⟩
      rw [idx, Nat.add_sub_cancel' (by omega), if_neg (by omega), Nat.add_sub_cancel]
  · rintro ⟨k, hk, rfl⟩
    have := idx_spec q k
    split <;> omega

theorem isLive_of_full {q : Queue} {i : Nat} (hc : q.count = q.buf.length) (hi : i < q.buf.length) :
    isLive q i := by
  unfold isLive; split <;> omega

theorem isLive_congr {q q' : Queue} (hh : q'.head = q.head) (hc : q'.count = q.count)
    (hl : q'.buf.length = q.buf.length) (i : Nat) : isLive q' i ↔ isLive q i := by
  unfold isLive; rw [hh, hc, hl]

theorem WF.pos {q : Queue} (h : WF q) {k : Nat} (hk : k < q.count) : 0 < q.buf.length := by
  have := h.cnt; omega

theorem WF.head_lt {q : Queue} (h : WF q) (hn : 0 < q.buf.length) : q.head < q.buf.length := by
  have := h.hd; omega

theorem WF.tail_lt {q : Queue} (h : WF q) (hn : 0 < q.buf.length) : q.tail < q.buf.length := by
  have := h.tl; omega

/-- `tail` is where the `count`-th element would go: the `ring` condition read through `idx` -/
theorem WF.idx_count {q : Queue} (h : WF q) : idx q q.count = q.tail := by
  have := idx_spec q q.count; have := h.ring; have := h.tl; have := h.hd; have := h.cnt; omega

theorem WF.full_iff {q : Queue} (h : WF q) (hn : 0 < q.buf.length) :
    q.count = q.buf.length ↔ (q.head = q.tail ∧ q.count ≠ 0) := by
  have := h.cnt; have := h.hd; have := h.tl; have := h.ring
  omega

theorem slotAt_eq_some {q : Queue} {i : Nat} {e : Entry} : slotAt q i = some e ↔ q.buf[i]? = some (some e) :=
  Option.join_eq_some_iff

theorem slotAt_some {q : Queue} {i : Nat} (hi : i < q.buf.length) : q.buf[i]? = some (slotAt q i) := by
  simp [slotAt, List.getElem?_eq_getElem hi]

theorem slotAt_set_ne {q q' : Queue} {i j : Nat} {x : Slot} (hb : q'.buf = q.buf.set i x) (hij : i ≠ j) :
    slotAt q' j = slotAt q j := by
  rw [slotAt, hb, List.getElem?_set_ne hij, slotAt]

theorem slotAt_set_self {q q' : Queue} {i : Nat} {x : Slot} (hb : q'.buf = q.buf.set i x) (hi : i < q.buf.length) :
    slotAt q' i = x := by
  rw [slotAt, hb, List.getElem?_set_self hi, Option.join_some]

theorem slots_length (q : Queue) : (slots q).length = q.count := by simp [slots]

theorem slots_getElem (q : Queue) (k : Nat) (hk : k < (slots q).length) : (slots q)[k] = slotAt q (idx q k) := by
  simp [slots]

theorem slots_getElem? (q : Queue) (i : Nat) :
    (slots q)[i]? = if i < q.count then some (slotAt q (idx q i)) else none := by
  unfold slots
  split <;> simp [*]

theorem slots_ext {q : Queue} {l : List Slot} (hl : l.length = q.count)
    (h : ∀ k (hk : k < l.length), slotAt q (idx q k) = l[k]) : slots q = l :=
  List.ext_getElem (by rw [slots_length, hl]) fun k _ h2 => by rw [slots_getElem]; exact h k h2

theorem mem_slots {q : Queue} {s : Slot} : s ∈ slots q ↔ ∃ k, k < q.count ∧ slotAt q (idx q k) = s := by
  simp [slots]

theorem WF.slots_some {q : Queue} (h : WF q) : ∀ s ∈ slots q, ∃ e, s = some e := by
  intro s hs
  obtain ⟨k, hk, rfl⟩ := mem_slots.1 hs
  obtain ⟨e, he⟩ := h.live k hk
  exact ⟨e, slotAt_eq_some.2 he⟩

theorem WF.of_slots {q : Queue} (cnt : q.count ≤ q.buf.length) (hd : q.head < q.buf.length)
    (tl : q.tail < q.buf.length) (ring : idx q q.count = q.tail)
    (hs : ∀ s ∈ slots q, ∃ e, s = some e) : WF q :=
  ⟨cnt, .inl hd, .inl tl, by have := idx_spec q q.count; omega, fun k hk =>
    (hs _ (mem_slots.2 ⟨k, hk, rfl⟩)).imp fun _ he => slotAt_eq_some.1 he⟩

theorem WF.slots_eq {q : Queue} (h : WF q) : slots q = (abs q).map some := by
  unfold abs
  have := h.slots_some
  generalize slots q = l at this
  induction l with
  | nil => rfl
  | cons a t ih =>
    obtain ⟨e, rfl⟩ := this a (by simp)
    simp only [List.filterMap_cons, id, List.map_cons, List.cons.injEq, true_and]
    exact ih (fun s hs => this s (by simp [hs]))

theorem abs_length {q : Queue} (h : WF q) : (abs q).length = q.count := by
  have := congrArg List.length h.slots_eq
  simpa [slots_length] using this.symm

theorem abs_of_slots {q q' : Queue} (h : slots q' = slots q) : abs q' = abs q := by simp [abs, h]

theorem abs_snoc {q q' : Queue} {e : Entry} (hs : slots q' = slots q ++ [some e]) : abs q' = abs q ++ [e] := by
  simp [abs, hs]

theorem abs_drop {q q' : Queue} (h : WF q) (hs : slots q' = (slots q).drop 1) : abs q' = (abs q).drop 1 := by
  unfold abs
  rw [hs, h.slots_eq, ← List.map_drop, filterMap_id_map_some, filterMap_id_map_some]

theorem abs_nil_of_count {q : Queue} (h : q.count = 0) : abs q = [] := by
  simp [abs, slots, h]

theorem abs_getElem_zero {q : Queue} (h : WF q) (hpos : 0 < q.count) :
    ∃ e, q.buf[q.head]? = some (some e) ∧ (abs q)[0]? = some e := by
  obtain ⟨e, he⟩ := h.live 0 hpos
  rw [idx_zero h.hd] at he
  refine ⟨e, he, ?_⟩
  have hs := slots_getElem? q 0
  rw [if_pos hpos, idx_zero h.hd, slotAt_eq_some.2 he, h.slots_eq, List.getElem?_map] at hs
  simpa using hs

theorem abs_cons {q : Queue} (h : WF q) (hpos : 0 < q.count) :
    ∃ e, q.buf[q.head]? = some (some e) ∧ abs q = e :: (abs q).drop 1 := by
  obtain ⟨e, hb, ha⟩ := abs_getElem_zero h hpos
  obtain ⟨hlt, he⟩ := List.getElem?_eq_some_iff.1 ha
  exact ⟨e, hb, he ▸ List.drop_eq_getElem_cons hlt⟩

theorem deadZero_iff {q : Queue} (hd : q.head < q.buf.length) :
    DeadZero q ↔ ∀ i, i < q.buf.length → (∀ k, k < q.count → idx q k ≠ i) → q.buf[i]? = some none :=
  forall_congr' fun _ => imp_congr_right fun hi => imp_congr_left <| by simp [isLive_iff hd hi]

/-- with dead slots zero, every message referenced from ANY slot of the backing array is a stored entry (C18) -/
theorem nonempty_slot_stored {q : Queue} (h : WF q) (hd : DeadZero q) (i : Nat) (e : Entry)
    (hs : q.buf[i]? = some (some e)) : e ∈ abs q := by
  have hi : i < q.buf.length := (List.getElem?_eq_some_iff.1 hs).1
  have hl : isLive q i := Classical.byContradiction fun hnl => by rw [hd i hi hnl] at hs; cases hs
  obtain ⟨k, hk, rfl⟩ := (isLive_iff (h.head_lt (by omega)) hi).1 hl
  exact List.mem_filterMap.2 ⟨some e, mem_slots.2 ⟨k, hk, slotAt_eq_some.2 hs⟩, rfl⟩

theorem wf_new (n : Nat) : WF { buf := List.replicate n none, head := 0, tail := 0, count := 0 } := by
  constructor <;> simp <;> omega

theorem deadZero_new (n : Nat) : DeadZero { buf := List.replicate n none, head := 0, tail := 0, count := 0 } := by
  intro i hi _
  simp at hi
  simp [hi]

/-- `q` without its oldest element; the slot itself is left as it is -/
def pop (q : Queue) : Queue := { q with head := wrapSucc q q.head, count := q.count - 1 }

/-- `x` written at `tail` as the newest element (of a queue that is not full) -/
def push (q : Queue) (x : Slot) : Queue :=
  { q with buf := q.buf.set q.tail x, tail := wrapSucc q q.tail, count := q.count + 1 }

theorem push_length (q : Queue) (x : Slot) : (push q x).buf.length = q.buf.length := List.length_set

theorem idx_pop {q : Queue} {k : Nat} (h : WF q) (hk : 1 + k ≤ q.buf.length) : idx (pop q) k = idx q (1 + k) := by
  have hd := h.head_lt (by omega)
  show wrap q.buf.length (wrapSucc q q.head + k) = _
  rw [wrapSucc_eq_wrap hd]; exact (idx_add hd hk).symm

theorem pop_spec {q : Queue} (h : WF q) (hpos : 0 < q.count) : WF (pop q) ∧ slots (pop q) = (slots q).drop 1 := by
  have hcnt := h.cnt
  have hd := h.head_lt (by omega); have ht := h.tail_lt (by omega)
  have hs : slots (pop q) = (slots q).drop 1 := by
    refine slots_ext (by simp [slots_length, pop]) fun k hk => ?_
    simp only [List.length_drop, slots_length] at hk
    rw [List.getElem_drop, slots_getElem, idx_pop h (by omega)]
    rfl
  refine ⟨.of_slots ?_ (wrapSucc_lt hd) ht ?_ fun s hs' => ?_, hs⟩
  · show q.count - 1 ≤ q.buf.length; omega
  · show idx (pop q) (q.count - 1) = q.tail
    rw [idx_pop h (by omega), Nat.add_sub_cancel' hpos, h.idx_count]
  · exact h.slots_some s (List.mem_of_mem_drop (hs ▸ hs'))

theorem isLive_pop {q : Queue} (h : WF q) (hpos : 0 < q.count) {i : Nat} (hi : i < q.buf.length) :
    isLive q i ↔ i = q.head ∨ isLive (pop q) i := by
  have hcnt := h.cnt
  have hd := h.head_lt (by omega)
  rw [isLive_iff hd hi, isLive_iff (q := pop q) (wrapSucc_lt hd) hi]
  constructor
  · rintro ⟨k, hk, rfl⟩
    cases k with
    | zero => exact .inl (idx_zero h.hd)
    | succ k => exact .inr ⟨k, by show k < q.count - 1; omega, by rw [idx_pop h (by omega), Nat.add_comm]⟩
  · rintro (rfl | ⟨k, hk, rfl⟩)
    · exact ⟨0, hpos, idx_zero h.hd⟩
    · have hk : k < q.count - 1 := hk
      exact ⟨1 + k, by omega, (idx_pop h (by omega)).symm⟩

theorem set_dead_spec {q : Queue} (h : WF q) (hn : 0 < q.buf.length) {i : Nat} (x : Slot)
    (hdead : ∀ k, k < q.count → idx q k ≠ i) :
    WF { q with buf := q.buf.set i x } ∧ slots { q with buf := q.buf.set i x } = slots q := by
  have hidx : ∀ k, idx { q with buf := q.buf.set i x } k = idx q k := idx_congr (q := q) rfl List.length_set
  have hs : slots { q with buf := q.buf.set i x } = slots q := by
    refine slots_ext (slots_length q) fun k hk => ?_
    rw [slots_getElem, hidx]
    exact slotAt_set_ne rfl (hdead k (by rwa [slots_length] at hk)).symm
  exact ⟨.of_slots (by simpa using h.cnt) (by simpa using h.head_lt hn) (by simpa using h.tail_lt hn)
    ((hidx _).trans h.idx_count) (hs ▸ h.slots_some), hs⟩

theorem slots_succ {q q' : Queue} (hb : q'.buf = q.buf) (hh : q'.head = q.head) (hc : q'.count = q.count + 1) :
    slots q' = slots q ++ [slotAt q' (idx q' q.count)] := by
  unfold slots slotAt idx
  rw [hc, List.range_succ, List.map_append, ← hb, ← hh]; rfl

theorem push_spec {q : Queue} (h : WF q) (hc : q.count < q.buf.length) (e : Entry) :
    WF (push q (some e)) ∧ slots (push q (some e)) = slots q ++ [some e] ∧
      (DeadZero q → DeadZero (push q (some e))) := by
  have hd := h.head_lt (by omega); have ht := h.tail_lt (by omega)
  have hl := push_length q (some e)
  have hidx : ∀ k, idx (push q (some e)) k = idx q k := idx_congr (q := q) rfl hl
  -- no live slot is at `tail`, so `push` is writing a dead slot and then counting it
  have hne : ∀ k, k < q.count → idx q k ≠ q.tail := fun k hk => h.idx_count ▸ idx_ne hk (by omega)
  have hs : slots (push q (some e)) = slots q ++ [some e] := by
    rw [slots_succ (q := { q with buf := q.buf.set q.tail (some e) }) (q' := push q (some e)) rfl rfl rfl,
      (set_dead_spec h (by omega) (some e) hne).2, hidx, h.idx_count, slotAt_set_self rfl ht]
  refine ⟨.of_slots (hl ▸ hc) (hl ▸ hd) (hl ▸ wrapSucc_lt ht) ?_ fun s hs' => ?_, hs, fun hz => ?_⟩
  · show idx (push q (some e)) (q.count + 1) = wrapSucc q q.tail
    rw [hidx, idx_succ hd hc, h.idx_count]
  · rw [hs, List.mem_append, List.mem_singleton] at hs'
    exact hs'.elim (h.slots_some s) fun hs' => ⟨e, hs'⟩
  · refine (deadZero_iff (hl ▸ hd)).2 fun i hi hn => ?_
    simp only [hidx] at hn
    show (q.buf.set q.tail (some e))[i]? = some none
    rw [List.getElem?_set_ne (h.idx_count ▸ hn q.count (Nat.lt_succ_self _))]
    exact (deadZero_iff hd).1 hz i (hl ▸ hi) fun k hk => hn k (Nat.lt_succ_of_lt hk)

theorem enqueue_notfull {q : Queue} (h : WF q) (hc : q.count < q.buf.length) (e : Entry) :
    q.enqueue e = .ok (push q (some e)) := by
  have ht := h.tail_lt (by omega)
  have hne : q.count ≠ q.buf.length := by omega
  unfold Queue.enqueue push wrapSucc
  simp only [ht, if_true, List.length_set, hne, decide_false, Bool.and_false, Bool.false_eq_true, if_false]
  split <;> rfl

theorem enqueue_full {q : Queue} (h : WF q) (hn : 0 < q.buf.length) (hc : q.count = q.buf.length) (e : Entry) :
    q.enqueue e = .ok (push (pop q) (some e)) := by
  have ht := h.tail_lt hn
  have hht : q.head = q.tail := ((h.full_iff hn).1 hc).1
  have hgt : q.tail + 1 > q.tail := Nat.lt_succ_self _
  have hcc : q.buf.length - 1 + 1 = q.buf.length := by omega
  unfold Queue.enqueue push pop wrapSucc
  simp only [ht, if_true, List.length_set, hc, hht, hgt, decide_true, Bool.and_true, hcc]
  split <;> rfl

/-- C08 core: `enqueue` appends and keeps the last `len(buf)` entries; dead slots stay zero (when full
there are none). -/
theorem enqueue_abs {q : Queue} (h : WF q) (hn : 0 < q.buf.length) (e : Entry) :
    ∃ q', q.enqueue e = .ok q' ∧ WF q' ∧ q'.buf.length = q.buf.length ∧
      abs q' = takeLast q.buf.length (abs q ++ [e]) ∧ (DeadZero q → DeadZero q') := by
  by_cases hc : q.count < q.buf.length
  · obtain ⟨hw, hs, hz⟩ := push_spec h hc e
    refine ⟨_, enqueue_notfull h hc e, hw, push_length _ _, ?_, hz⟩
    rw [abs_snoc hs, takeLast_all _ _ (by rw [List.length_append, abs_length h]; exact hc)]
  · have hc' : q.count = q.buf.length := by have := h.cnt; omega
    obtain ⟨hwp, hsp⟩ := pop_spec h (by omega)
    obtain ⟨hw, hs, _⟩ := push_spec (q := pop q) hwp (by show q.count - 1 < q.buf.length; omega) e
    refine ⟨_, enqueue_full h hn hc' e, hw, push_length _ _, ?_, fun _ i hi hnl => ?_⟩
    · rw [abs_snoc hs, abs_drop h hsp, takeLast, List.length_append, abs_length h, hc', List.length_singleton,
        Nat.add_sub_cancel_left, List.drop_append_of_le_length (by rw [abs_length h]; omega)]
    · exact absurd (isLive_of_full (by rw [push_length]; show q.count - 1 + 1 = q.buf.length; omega) hi) hnl

theorem dequeue_eq {q : Queue} (h : WF q) (hpos : 0 < q.count) :
    q.dequeue = .ok { pop q with buf := q.buf.set q.head none } := by
  have hh := h.head_lt (h.pos hpos)
  unfold Queue.dequeue pop wrapSucc
  simp only [hh, if_true, List.length_set]

theorem dequeue_spec {q : Queue} (h : WF q) (hpos : 0 < q.count) :
    ∃ q', q.dequeue = .ok q' ∧ WF q' ∧ q'.count = q.count - 1 ∧
      slots q' = (slots q).drop 1 ∧ (DeadZero q → DeadZero q') := by
  have hcnt := h.cnt
  have hdead : ∀ k, k < q.count - 1 → idx (pop q) k ≠ q.head := fun k hk => by
    rw [idx_pop h (by omega), ← idx_zero h.hd]
    exact (idx_ne (by omega) (by omega)).symm
  obtain ⟨hwp, hsp⟩ := pop_spec h hpos
  obtain ⟨hw, hs⟩ := set_dead_spec hwp (h.pos hpos) none hdead
  refine ⟨_, dequeue_eq h hpos, hw, rfl, hs.trans hsp, fun hz i hi hnl => ?_⟩
  rw [List.length_set] at hi
  show (q.buf.set q.head none)[i]? = some none
  by_cases hih : q.head = i
  · rw [hih, List.getElem?_set_self hi]
  · rw [List.getElem?_set_ne hih]
    refine hz i hi fun hl => hnl ?_
    rw [isLive_congr (q := pop q) (q' := { pop q with buf := q.buf.set q.head none }) rfl rfl List.length_set]
    exact ((isLive_pop h hpos hi).1 hl).resolve_left (Ne.symm hih)

end GoSSE.Proofs
