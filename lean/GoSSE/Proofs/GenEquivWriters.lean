import GoSSE.Gen.Writers
import GoSSE.Model.Server
/-!
# `getResponseWriter` as translated from session.go = the model's `getResponseWriter`

In the translated text an `http.ResponseWriter` is a `GoRT.DynRW` (an identity, the extra methods of its dynamic type,
what `Unwrap()` returns), the type switch asks `dynHas`, and the result is the wrapper type chosen and the writer wrapped
(or nil). A model `Shape` (which layers implement `Flush()`, `FlushError() error`, `Unwrap()`) is such a writer whose
identities are the layer numbers (`toDyn`). For every shape the translated loop ends without a fault and answers what
the model answers: the outermost layer that can flush at all, `FlushError` preferred to `Flush` on one layer.
-/
namespace GoSSE.GenEquiv
open GoSSE GoSSE.GoRT GoSSE.Model.Server GoSSE.Model.Session

def capsMethods : Caps → List String
  | .plain => []
  | .flusher => ["Flush"]
  | .flushError => ["FlushError"]
  | .both => ["Flush", "FlushError"]

/-- a shape as a dynamic writer: layer `lvl` first -/
def toDyn : Shape → Nat → DynRW
  | .base c, lvl => .mk lvl (capsMethods c) none
  | .wrapped c inner, lvl => .mk lvl (capsMethods c) (some (toDyn inner (lvl + 1)))

def kindName : FlushKind → String
  | .flushError => "flusherErrorWrapper"
  | .flusher => "flusherWrapper"

def depth : Shape → Nat
  | .base _ => 0
  | .wrapped _ inner => depth inner + 1

/-- what the caller can tell of the answer: which wrapper, around which layer -/
def resView (r : Option (String × DynRW)) : Option (String × Nat) := r.map fun x => (x.1, x.2.id)

def modelView (r : Option Res) : Option (String × Nat) := r.map fun x => (kindName x.kind, x.lvl)

/-- the type switch's `case` for an interface with one method other than `Unwrap` -/
theorem dynHas_method (lvl : Nat) (ms : List String) (i : Option DynRW) {m : String} (hm : (m == "Unwrap") = false) :
    dynHas (.mk lvl ms i) [m] = ms.contains m := by
  simp only [dynHas, List.all_cons, List.all_nil, Bool.and_true, DynRW.methods, hm, Bool.false_eq_true, if_false]

theorem has_unwrap (ms : List String) (lvl : Nat) (i : Option DynRW) :
    dynHas (.mk lvl ms i) ["Unwrap"] = i.isSome := by
  simp [dynHas, DynRW.inner]

theorem has_flushError (c : Caps) (lvl : Nat) (i : Option DynRW) :
    dynHas (.mk lvl (capsMethods c) i) ["FlushError"] = (c == .flushError || c == .both) := by
  rw [dynHas_method _ _ _ (by simp)]
  cases c <;> simp [capsMethods]

theorem has_flush (c : Caps) (lvl : Nat) (i : Option DynRW) :
    dynHas (.mk lvl (capsMethods c) i) ["Flush"] = (c == .flusher || c == .both) := by
  rw [dynHas_method _ _ _ (by simp)]
  cases c <;> simp [capsMethods]

/-- the type switch answers what `Caps.pick` answers; a layer without flushing methods is unwrapped when it has an
`Unwrap()`, and is the end (nil) when it has none -/
theorem loop1_eq (fuel : Nat) (c : Caps) (lvl : Nat) (i : Option DynRW) :
    Gen.getResponseWriter_loop1 fuel (.mk lvl (capsMethods c) i) =
      .ok (match c.pick, i with
        | some k, _ => .ret (some (kindName k, .mk lvl (capsMethods c) i))
        | none, some w => .next w
        | none, none => .ret none) := by
  unfold Gen.getResponseWriter_loop1
  simp only [has_flushError, has_flush, has_unwrap]
  cases c with
  | plain => cases i <;> rfl
  | _ => rfl

theorem body_pick (fuel : Nat) (c : Caps) (lvl : Nat) (i : Option DynRW) (k : FlushKind) (h : c.pick = some k) :
    Gen.getResponseWriter_loop1 fuel (.mk lvl (capsMethods c) i) = .ok (.ret (some (kindName k, .mk lvl (capsMethods c) i))) := by
  rw [loop1_eq, h]

/-- the loop follows the model's recursion over the shape, one round per layer -/
theorem loop_eq (fuel : Nat) (sh : Shape) : ∀ (lvl n : Nat), depth sh < n →
    ∃ r, loopM (Gen.getResponseWriter_loop1 fuel) n (toDyn sh lvl) = .ok (.inr r) ∧
      resView r = modelView (Model.Server.getResponseWriter sh lvl) := by
  induction sh with
  | base c =>
    intro lvl n hn
    obtain ⟨n, rfl⟩ := Nat.exists_eq_succ_of_ne_zero (Nat.ne_zero_of_lt hn)
    rw [toDyn, loopM, loop1_eq, Model.Server.getResponseWriter]
    cases c.pick <;> exact ⟨_, rfl, rfl⟩
  | wrapped c inner ih =>
    intro lvl n hn
    obtain ⟨n, rfl⟩ := Nat.exists_eq_succ_of_ne_zero (Nat.ne_zero_of_lt hn)
    rw [toDyn, loopM, loop1_eq, Model.Server.getResponseWriter]
    cases c.pick with
    | some k => exact ⟨_, rfl, rfl⟩
    | none => exact ih (lvl + 1) n (Nat.lt_of_succ_lt_succ hn)

/-- **`getResponseWriter` as translated**: for every shape of response writer and fuel beyond its depth, no fault, and
the model's answer — which wrapper (`flusherErrorWrapper` / `flusherWrapper`), around which layer, or nil -/
theorem getResponseWriter_eq (fuel : Nat) (sh : Shape) (hf : depth sh < fuel) :
    ∃ r, Gen.getResponseWriter fuel (toDyn sh 0) = .ok r ∧ resView r = modelView (Model.Server.getResponseWriter sh 0) := by
  obtain ⟨r, hr, hv⟩ := loop_eq fuel sh 0 fuel hf
  exact ⟨r, by rw [Gen.getResponseWriter, hr]; rfl, hv⟩

end GoSSE.GenEquiv
