import GoSSE.Spec.Message
import GoSSE.Proofs.QueueNum
/-!
The encoders: the retry digit loop; `WriteTo` is "write the list `writes m`, stop at the first
error" (`Spec.writeAll`); what `writeAll` guarantees under the `io.Writer` contract.
-/
namespace GoSSE.Proofs
open GoSSE GoSSE.Spec GoSSE.Model

variable {σ ε : Type}

theorem digit_eq (k : Nat) : 48 + UInt8.ofNat k = UInt8.ofNat (48 + k) := (UInt8.ofNat_add 48 k).symm

theorem digit_ne_zero (k : Nat) (h : k < 10) (h0 : 0 < k) : (48 + UInt8.ofNat k) ≠ 48 := by
  intro e
  have := (digit_spec k h).2
  rw [← digit_eq, e] at this
  exact absurd this.symm (Nat.ne_of_gt h0)

theorem digitsVal_foldl (v : Bytes) (a : Nat) : v.foldl dstep a = a * 10 ^ v.length + digitsVal v := by
  rw [digitsVal_eq]
  induction v generalizing a with
  | nil => simp
  | cons b t ih =>
    simp only [List.foldl_cons, List.length_cons]
    rw [ih (dstep a b), ih (dstep 0 b)]
    simp only [dstep, Nat.zero_mul, Nat.zero_add, Nat.pow_succ, Nat.add_mul]
    rw [Nat.mul_assoc, Nat.mul_comm 10]
    omega

theorem digitsVal_cons (b : Byte) (t : Bytes) :
    digitsVal (b :: t) = (b.toNat - 48) * 10 ^ t.length + digitsVal t := by
  rw [digitsVal_eq, List.foldl_cons, digitsVal_foldl, dstep, Nat.zero_mul, Nat.zero_add]

/-- the digit loop on an accumulator instead of the buffer: `acc` is `buf[i+1:]` -/
def accLoop : Nat → Nat → Bytes → Option Bytes
  | 0, millis, acc => if millis = 0 then some acc else none
  | j + 1, millis, acc =>
    if millis = 0 then some acc else accLoop j (millis / 10) ((48 + UInt8.ofNat (millis % 10)) :: acc)

theorem drop_set_self (l : List Byte) (j : Nat) (d : Byte) (h : j < l.length) :
    (l.set j d).drop j = d :: l.drop (j + 1) := by
  rw [List.drop_set, if_neg (Nat.lt_irrefl j), Nat.sub_self, List.drop_eq_getElem_cons h, List.set_cons_zero]

theorem drop_set_succ (l : List Byte) (j : Nat) (d : Byte) :
    (l.set j d).drop (j + 1) = l.drop (j + 1) :=
  List.drop_set_of_lt (Nat.lt_succ_self j)

theorem retryLoop_eq_accLoop (j millis : Nat) (buf : List Byte) (h : j ≤ buf.length) :
    (retryLoop j millis buf).map (fun r => r.2.drop r.1) = accLoop j millis (buf.drop j) := by
  induction j generalizing millis buf with
  | zero => unfold retryLoop accLoop; split <;> simp
  | succ j ih =>
    unfold retryLoop accLoop
    by_cases hm : millis = 0
    · simp [hm]
    · simp only [hm, if_false]
      rw [ih _ _ (by simp; omega)]
      rw [drop_set_self _ _ _ (by omega)]

theorem retryDigits_eq (millis : Nat) : retryDigits millis = accLoop 13 millis [] := by
  unfold retryDigits
  rw [retryLoop_eq_accLoop 13 millis _ (by simp)]
  simp

theorem accLoop_eq (j n : Nat) (acc : Bytes) :
    accLoop j n acc = if n < 10 ^ j then some (digitsLoop j n acc) else none := by
  induction j generalizing n acc with
  | zero =>
    have : n < 10 ^ 0 ↔ n = 0 := by simp
    simp only [accLoop, digitsLoop, this]
  | succ j ih =>
    unfold accLoop digitsLoop
    by_cases hn : n = 0
    · subst hn; simp [Nat.pow_pos]
    · have : n / 10 < 10 ^ j ↔ n < 10 ^ (j + 1) := by
        rw [Nat.pow_succ, Nat.div_lt_iff_lt_mul (by omega)]
      simp only [hn, if_false, ih, this]

theorem digitsLoop_digits (f n : Nat) (acc : Bytes) (h : acc.all isDigit = true) : (digitsLoop f n acc).all isDigit = true := by
  induction f generalizing n acc with
  | zero => exact h
  | succ f ih =>
    unfold digitsLoop
    split
    · exact h
    · apply ih; simp only [List.all_cons, h, Bool.and_true]; rw [digit_eq]; exact (digit_spec _ (Nat.mod_lt _ (by omega))).1

theorem digitsLoop_val (f n : Nat) (acc : Bytes) (h : n < 10 ^ f) :
    digitsVal (digitsLoop f n acc) = n * 10 ^ acc.length + digitsVal acc := by
  induction f generalizing n acc with
  | zero => simp at h; simp [digitsLoop, h]
  | succ f ih =>
    unfold digitsLoop
    by_cases hn : n = 0
    · simp [hn]
    · simp only [hn, if_false]
      rw [Nat.pow_succ] at h
      rw [ih _ _ (Nat.div_lt_of_lt_mul (by rw [Nat.mul_comm]; exact h)), digitsVal_cons, digit_eq,
        (digit_spec _ (Nat.mod_lt _ (by omega))).2]
      simp only [List.length_cons, Nat.pow_succ]
      have hdm := Nat.div_add_mod n 10
      calc n / 10 * (10 ^ acc.length * 10) + (n % 10 * 10 ^ acc.length + digitsVal acc)
          = (10 * (n / 10) + n % 10) * 10 ^ acc.length + digitsVal acc := by
            rw [Nat.add_mul, Nat.mul_comm (10 ^ acc.length) 10, ← Nat.mul_assoc, Nat.mul_comm (n / 10) 10]; omega
        _ = n * 10 ^ acc.length + digitsVal acc := by rw [hdm]

theorem digitsLoop_head (f n : Nat) (acc : Bytes) (hpos : 0 < n) (h : n < 10 ^ f) :
    ∃ d t, digitsLoop f n acc = d :: t ∧ d ≠ 48 := by
  induction f generalizing n acc with
  | zero => simp at h; omega
  | succ f ih =>
    unfold digitsLoop
    rw [if_neg (by omega)]
    rw [Nat.pow_succ] at h
    by_cases hd : n / 10 = 0
    · have hlt : n < 10 := by omega
      have : digitsLoop f 0 ((48 + UInt8.ofNat (n % 10)) :: acc) = (48 + UInt8.ofNat (n % 10)) :: acc := by
        cases f <;> simp [digitsLoop]
      rw [hd, this, Nat.mod_eq_of_lt hlt]
      exact ⟨_, _, rfl, digit_ne_zero _ hlt hpos⟩
    · exact ih _ _ (by omega) (Nat.div_lt_of_lt_mul (by rw [Nat.mul_comm]; exact h))

theorem digitsVal_formatUint (n : Nat) : digitsVal (formatUint n) = n := by
  unfold formatUint
  by_cases hn : n = 0
  · subst hn; decide
  · rw [if_neg hn]
    simpa [digitsVal] using digitsLoop_val n n [] (Nat.lt_pow_self (by omega))

/-- `10 ^ 13`: `writeRetry`'s buffer has 13 bytes -/
theorem retryDigits_spec (ms : Nat) (h1 : 1 ≤ ms) (h2 : ms < 10 ^ 13) :
    ∃ ds, retryDigits ms = some ds ∧ ds.all isDigit = true ∧ digitsVal ds = ms ∧ ∃ d t, ds = d :: t ∧ d ≠ 48 := by
  rw [retryDigits_eq, accLoop_eq, if_pos h2]
  exact ⟨_, rfl, digitsLoop_digits _ _ _ rfl, by simpa [digitsVal] using digitsLoop_val 13 ms [] h2,
    digitsLoop_head 13 ms [] h1 h2⟩

/-- the fields of the wire form in order: the name as written (with its `": "`) and the value -/
def fieldsOf (m : Message) : List (Bytes × Bytes) :=
  (if m.id.set then [(fieldBytesID, m.id.value)] else []) ++
  (if m.typ.set then [(fieldBytesEvent, m.typ.value)] else []) ++
  (if m.millis ≤ 0 then [] else [(fieldBytesRetry, (retryDigits m.millis.toNat).getD [])]) ++
  m.chunks.map fun c => (if c.isComment then fieldBytesComment else fieldBytesData, c.content)

theorem bodyWrites_eq (m : Message) : m.bodyWrites = (fieldsOf m).flatMap fun p => fieldWrites p.1 p.2 := by
  simp only [Message.bodyWrites, fieldsOf, List.flatMap_append, apply_ite (List.flatMap _), List.flatMap_cons,
    List.flatMap_nil, List.append_nil, List.flatMap_map]

theorem mem_fieldsOf {m : Message} {p : Bytes × Bytes} : p ∈ fieldsOf m ↔
    (m.id.set = true ∧ p = (fieldBytesID, m.id.value)) ∨ (m.typ.set = true ∧ p = (fieldBytesEvent, m.typ.value)) ∨
    (¬ m.millis ≤ 0 ∧ p = (fieldBytesRetry, (retryDigits m.millis.toNat).getD [])) ∨
    ∃ c ∈ m.chunks, p = (if c.isComment then fieldBytesComment else fieldBytesData, c.content) := by
  have one : ∀ (c : Prop) [Decidable c] (x : Bytes × Bytes), p ∈ (if c then [x] else []) ↔ c ∧ p = x := by
    intro c _ x; split <;> simp [*]
  have one' : ∀ (c : Prop) [Decidable c] (x : Bytes × Bytes), p ∈ (if c then [] else [x]) ↔ ¬ c ∧ p = x := by
    intro c _ x; split <;> simp [*]
  simp only [fieldsOf, List.mem_append, one, one', List.mem_map, or_assoc, eq_comm (a := p)]

def fieldNames : List Bytes := [fieldBytesID, fieldBytesEvent, fieldBytesRetry, fieldBytesData, fieldBytesComment]

theorem fieldsOf_name {m : Message} {p : Bytes × Bytes} (hp : p ∈ fieldsOf m) : p.1 ∈ fieldNames := by
  rcases mem_fieldsOf.1 hp with ⟨_, rfl⟩ | ⟨_, rfl⟩ | ⟨_, rfl⟩ | ⟨c, _, rfl⟩
  · simp [fieldNames]
  · simp [fieldNames]
  · simp [fieldNames]
  · cases c.isComment <;> simp [fieldNames]

theorem fieldName_ne_nil : ∀ n ∈ fieldNames, n ≠ [] := by decide

/-- every field line starts with a non-empty name -/
theorem bodyWrites_flatten_length (m : Message) (h : m.bodyWrites.flatten.length = 0) : m.bodyWrites = [] := by
  rw [bodyWrites_eq] at h ⊢
  cases hf : fieldsOf m with
  | nil => rfl
  | cons p ps =>
    have hn := fieldName_ne_nil p.1 (fieldsOf_name (by rw [hf]; exact List.mem_cons_self))
    rw [hf] at h
    simp only [List.flatMap_cons, fieldWrites, List.flatten_append, List.flatten_cons, List.length_append] at h
    exact absurd (List.eq_nil_of_length_eq_zero (by omega)) hn

theorem writeAll_of_err (w : Writer σ ε) (r : WR σ ε) (ps : List Bytes) (h : r.err.isSome = true) :
    writeAll w r ps = r := by
  cases ps <;> simp [writeAll, h]

theorem writeAll_append (w : Writer σ ε) (r : WR σ ε) (a b : List Bytes) :
    writeAll w r (a ++ b) = writeAll w (writeAll w r a) b := by
  induction a generalizing r with
  | nil => simp [writeAll]
  | cons p ps ih =>
    simp only [List.cons_append, writeAll]
    split
    · rename_i h; rw [writeAll_of_err w r b h]
    · exact ih _

theorem writeAll_panic (w : Writer σ ε) (r : WR σ ε) (ps : List Bytes) : (writeAll w r ps).panic = r.panic := by
  induction ps generalizing r with
  | nil => simp [writeAll]
  | cons p ps ih =>
    simp only [writeAll]
    split
    · rfl
    · rw [ih]; simp [WR.write]

theorem writeAll_log_faithful (w : Writer σ ε) (r : WR σ ε) (ps : List Bytes)
    (h : ∀ c ∈ r.log, ∃ s, c.2.1 = (w.write s c.1).1 ∧ c.2.2 = (w.write s c.1).2.1) :
    ∀ c ∈ (writeAll w r ps).log, ∃ s, c.2.1 = (w.write s c.1).1 ∧ c.2.2 = (w.write s c.1).2.1 := by
  induction ps generalizing r with
  | nil => exact h
  | cons p ps ih =>
    rw [writeAll]
    split
    · exact h
    · refine ih _ fun c hc => ?_
      rcases List.mem_append.1 hc with hc | hc
      · exact h c hc
      · rw [List.mem_singleton.1 hc]; exact ⟨r.st, rfl, rfl⟩

theorem addTo_zero (q : WR σ ε) : WR.addTo 0 q = q := by
  cases q; simp [WR.addTo]

theorem write3_eq (w : Writer σ ε) (r : WR σ ε) (a b c : Bytes) (he : r.err = none) (hp : r.panic = false) :
    WR.addTo r.n (write3 w r.st r.log a b c) = writeAll w r [a, b, c] := by
  cases r with
  | mk n err st log panic =>
    simp only at he hp; subst he hp
    simp only [write3, writeAll, WR.write, WR.stop, Option.isSome_none, Bool.false_eq_true, if_false,
      Bool.or_false, Nat.zero_add]
    by_cases h1 : (w.write st a).2.1.isSome = true
    · simp [h1, WR.addTo]
    · by_cases h2 : (w.write (w.write st a).2.2 b).2.1.isSome = true
      · simp [h1, h2, WR.addTo, Nat.add_assoc]
      · simp [h1, h2, WR.addTo, Nat.add_assoc]

theorem writeMessageField_eq (w : Writer σ ε) (r : WR σ ε) (f : MField) (fb : Bytes) (he : r.err = none) (hp : r.panic = false) :
    WR.addTo r.n (writeMessageField w r.st r.log f fb) = writeAll w r (if f.set then fieldWrites fb f.value else []) := by
  unfold writeMessageField
  cases hs : f.set with
  | false =>
    cases r; simp only at he hp; subst he hp
    simp [WR.addTo, writeAll]
  | true => simp only [Bool.not_true, Bool.false_eq_true, if_false, if_true, fieldWrites]; exact write3_eq w r _ _ _ he hp

/-- the retry value is writable: the digit buffer suffices -/
def RetryOK (m : Message) : Prop := m.millis ≤ 0 ∨ (retryDigits m.millis.toNat).isSome = true

theorem writeRetry_eq (w : Writer σ ε) (r : WR σ ε) (m : Message) (hm : RetryOK m) (he : r.err = none) (hp : r.panic = false) :
    WR.addTo r.n (m.writeRetry w r.st r.log) =
      writeAll w r (if m.millis ≤ 0 then [] else fieldWrites fieldBytesRetry ((retryDigits m.millis.toNat).getD [])) := by
  unfold Message.writeRetry
  by_cases h0 : m.millis ≤ 0
  · cases r; simp only at he hp; subst he hp
    simp [h0, WR.addTo, writeAll]
  · simp only [h0, if_false]
    cases hm with
    | inl h => exact absurd h h0
    | inr h =>
      cases hd : retryDigits m.millis.toNat with
      | none => simp [hd] at h
      | some ds => simp only [Option.getD_some, fieldWrites]; exact write3_eq w r _ _ _ he hp

theorem chunk_writeTo_eq (w : Writer σ ε) (r : WR σ ε) (c : Chunk) (he : r.err = none) (hp : r.panic = false) :
    WR.addTo r.n (c.writeTo w r.st r.log) =
      writeAll w r (fieldWrites (if c.isComment then fieldBytesComment else fieldBytesData) c.content) := by
  unfold Chunk.writeTo fieldWrites
  exact write3_eq w r _ _ _ he hp

theorem stop_eq (r : WR σ ε) (hp : r.panic = false) : r.stop = r.err.isSome := by
  simp [WR.stop, hp]

/-- before the first `Write` -/
def r0 {σ ε : Type} (st : σ) : WR σ ε := { n := 0, err := none, st := st, log := [] }

/-- The Go code's `if err != nil { return }` between two groups of writes: `r'` is the result of the writes `ps`,
`x` what the code does next, which amounts to the writes `qs` followed by `fin`; `fin` is not reached after an error. -/
theorem writes_then (w : Writer σ ε) {fin : WR σ ε → WR σ ε} (hfin : ∀ q : WR σ ε, q.err.isSome = true → fin q = q)
    {r r' x : WR σ ε} {ps qs : List Bytes} (hp : r.panic = false) (hr' : r' = writeAll w r ps)
    (hx : r'.err = none → r'.panic = false → x = fin (writeAll w r' qs)) :
    (if r'.stop then r' else x) = fin (writeAll w r (ps ++ qs)) := by
  have hp' : r'.panic = false := by rw [hr', writeAll_panic]; exact hp
  rw [writeAll_append, ← hr', stop_eq r' hp']
  cases he : r'.err with
  | some e =>
    have hs : r'.err.isSome = true := by rw [he]; rfl
    rw [writeAll_of_err w r' qs hs, hfin r' hs]; rfl
  | none => exact hx he hp'

theorem writeChunks_eq (w : Writer σ ε) (r : WR σ ε) (cs : List Chunk) (he : r.err = none) (hp : r.panic = false) :
    writeChunks w r cs =
      writeAll w r (cs.flatMap fun c => fieldWrites (if c.isComment then fieldBytesComment else fieldBytesData) c.content) := by
  induction cs generalizing r with
  | nil => rfl
  | cons c cs ih =>
    exact writes_then w (fin := id) (fun _ _ => rfl) hp (chunk_writeTo_eq w r c he hp) (fun he' hp' => ih _ he' hp')

theorem writeTo_body (w : Writer σ ε) (st : σ) (m : Message) (hm : RetryOK m) :
    m.writeTo w st =
      let r := writeAll w (r0 st) m.bodyWrites
      if r.err.isSome then r
      else if r.n == 0 then { r with n := 0, err := none }
      else r.write w newline := by
  have hfin : ∀ q : WR σ ε, q.err.isSome = true →
      (if q.err.isSome then q else if q.n == 0 then { q with n := 0, err := none } else q.write w newline) = q :=
    fun q h => if_pos h
  unfold Message.writeTo Message.bodyWrites
  simp only [List.append_assoc]
  refine writes_then w hfin (r := r0 st) rfl
    ((addTo_zero _).symm.trans (writeMessageField_eq w (r0 st) m.id fieldBytesID rfl rfl)) fun he1 hp1 => ?_
  refine writes_then w hfin hp1 (writeMessageField_eq w _ m.typ fieldBytesEvent he1 hp1) fun he2 hp2 => ?_
  refine writes_then w hfin hp2 (writeRetry_eq w _ m hm he2 hp2) fun he3 hp3 => ?_
  rw [writeChunks_eq w _ m.chunks he3 hp3]
  exact congrArg (fun b => if b = true then _ else _) (stop_eq _ ((writeAll_panic w _ _).trans hp3))

/-- the error the writer returned at the last call made -/
def lastErr (log : List (Bytes × Nat × Option ε)) : Option ε := log.getLast?.bind (·.2.2)

def FullCall (c : Bytes × Nat × Option ε) : Prop := c.2.2 = none ∧ c.2.1 = c.1.length

/-- what `WriteTo` owes its caller, relative to the write sequence `ps` -/
structure Acc (r : WR σ ε) (ps : List Bytes) : Prop where
  count : r.n = (accepted r.log).length
  calls : r.log.map (·.1) <+: ps
  bytes : accepted r.log <+: ps.flatten
  complete : r.err = none → r.log.map (·.1) = ps ∧ accepted r.log = ps.flatten
  err_last : r.err = lastErr r.log
  earlier : ∀ c ∈ r.log.dropLast, FullCall c
  /-- on error, what the failing call did not take is missing from the total -/
  short : r.err ≠ none → ∃ c, r.log.getLast? = some c ∧ (accepted r.log).length + (c.1.length - c.2.1) ≤ ps.flatten.length

theorem accepted_append (l : List (Bytes × Nat × Option ε)) (x : Bytes × Nat × Option ε) :
    accepted (l ++ [x]) = accepted l ++ x.1.take x.2.1 := by
  simp [accepted, List.flatMap_append]

theorem lastErr_of_full (log : List (Bytes × Nat × Option ε)) (h : ∀ c ∈ log, FullCall c) : lastErr log = none := by
  unfold lastErr
  cases hl : log.getLast? with
  | none => rfl
  | some c => simp only [Option.bind_some]; exact (h c (List.mem_of_getLast? hl)).1

/-- every call so far succeeded in full, and `n` has counted them -/
structure Full (r : WR σ ε) : Prop where
  err : r.err = none
  count : r.n = (accepted r.log).length
  full : ∀ c ∈ r.log, FullCall c

theorem accepted_of_full (log : List (Bytes × Nat × Option ε)) (h : ∀ c ∈ log, FullCall c) :
    accepted log = (log.map (·.1)).flatten := by
  induction log with
  | nil => rfl
  | cons c t ih =>
    have hc : c.1.take c.2.1 = c.1 := by rw [(h c List.mem_cons_self).2, List.take_length]
    show c.1.take c.2.1 ++ accepted t = c.1 ++ (t.map (·.1)).flatten
    rw [hc, ih fun x hx => h x (List.mem_cons_of_mem _ hx)]

theorem Full.acc {r : WR σ ε} (h : Full r) : Acc r (r.log.map (·.1)) :=
  have hb := accepted_of_full r.log h.full
  ⟨h.count, List.prefix_refl _, hb ▸ List.prefix_refl _, fun _ => ⟨rfl, hb⟩, by rw [h.err, lastErr_of_full _ h.full],
    fun c hc => h.full c (List.dropLast_subset _ hc), fun hne => absurd h.err hne⟩

theorem Full.write {w : Writer σ ε} (hw : w.Obeys) {r : WR σ ε} (h : Full r) {p : Bytes}
    (hq : (w.write r.st p).2.1 = none) : Full (r.write w p) := by
  have hlen : (w.write r.st p).1 = p.length :=
    Nat.le_antisymm (hw r.st p).1 (Nat.not_lt.1 fun hlt => (hw r.st p).2 hlt hq)
  refine ⟨hq, ?_, fun c hc => ?_⟩
  · simp [WR.write, accepted_append, h.count, hlen]
  · rcases List.mem_append.1 hc with hc | hc
    · exact h.full c hc
    · rw [List.mem_singleton.1 hc]; exact ⟨hq, hlen⟩

theorem Full.write_err {w : Writer σ ε} (hw : w.Obeys) {r : WR σ ε} (h : Full r) {p : Bytes} {e : ε}
    (hq : (w.write r.st p).2.1 = some e) (ps : List Bytes) : Acc (r.write w p) (r.log.map (·.1) ++ p :: ps) := by
  have hk : (w.write r.st p).1 ≤ p.length := (hw r.st p).1
  have hacc : accepted (r.write w p).log = accepted r.log ++ p.take (w.write r.st p).1 := accepted_append _ _
  have hlast : (r.write w p).log.getLast? = some (p, (w.write r.st p).1, (w.write r.st p).2.1) :=
    List.getLast?_concat
  have hflat : (r.log.map (·.1) ++ p :: ps).flatten =
      accepted r.log ++ p.take (w.write r.st p).1 ++ (p.drop (w.write r.st p).1 ++ ps.flatten) := by
    rw [List.flatten_append, List.flatten_cons, ← accepted_of_full r.log h.full, List.append_assoc,
      ← List.append_assoc (p.take _), List.take_append_drop]
  exact {
    count := by rw [hacc, List.length_append, List.length_take, Nat.min_eq_left hk, ← h.count]; rfl
    calls := ⟨ps, by simp [WR.write]⟩
    bytes := ⟨_, by rw [hacc, hflat]⟩
    complete := fun he => nomatch he.symm.trans hq
    err_last := by rw [lastErr, hlast]; rfl
    earlier := fun c hc => h.full c (by rwa [show (r.write w p).log.dropLast = r.log from List.dropLast_concat] at hc)
    short := fun _ => ⟨_, hlast, by
      rw [hacc, hflat]
      simp only [List.length_append, List.length_take, List.length_drop]
      omega⟩ }

theorem writeAll_acc (w : Writer σ ε) (hw : w.Obeys) (ps : List Bytes) (r : WR σ ε) (h : Full r) :
    Acc (writeAll w r ps) (r.log.map (·.1) ++ ps) := by
  induction ps generalizing r with
  | nil => rw [List.append_nil]; exact h.acc
  | cons p ps ih =>
    rw [writeAll, if_neg (by rw [h.err]; exact Bool.false_ne_true)]
    cases hq : (w.write r.st p).2.1 with
    | none =>
      have := ih (r.write w p) (h.write hw hq)
      simpa [WR.write] using this
    | some e =>
      rw [writeAll_of_err w _ ps (by simp [WR.write, hq])]
      exact h.write_err hw hq ps

theorem r0_acc (w : Writer σ ε) (hw : w.Obeys) (st : σ) (ps : List Bytes) : Acc (writeAll w (r0 st) ps) ps :=
  writeAll_acc w hw ps (r0 st) ⟨rfl, rfl, nofun⟩

theorem writeTo_eq_writeAll (w : Writer σ ε) (hw : w.Obeys) (st : σ) (m : Message) (hm : RetryOK m) :
    m.writeTo w st = writeAll w (r0 st) m.writes := by
  rw [writeTo_body w st m hm]
  unfold Message.writes
  by_cases hb : m.bodyWrites = []
  · rw [hb]; rfl
  · have hacc := r0_acc w hw st m.bodyWrites
    have hbe : m.bodyWrites.isEmpty = false := by simpa using hb
    simp only [hbe, Bool.false_eq_true, if_false, writeAll_append]
    generalize writeAll w (r0 st) m.bodyWrites = r at hacc ⊢
    show _ = if r.err.isSome then r else r.write w newline
    cases he : r.err with
    | some e => rfl
    | none =>
      -- the contract makes `n` the number of bytes of the body, which has a non-empty field name
      have hn : r.n ≠ 0 := fun h0 =>
        hb (bodyWrites_flatten_length m (by rw [← (hacc.complete he).2, ← hacc.count, h0]))
      simp [hn]

theorem bufWriter_obeys : bufWriter.Obeys := by
  intro st p; simp [bufWriter]

theorem buf_writeAll (r : WR Bytes Empty) (ps : List Bytes) (he : r.err = none) :
    (writeAll bufWriter r ps).st = r.st ++ ps.flatten ∧ (writeAll bufWriter r ps).err = none ∧
      (writeAll bufWriter r ps).n = r.n + ps.flatten.length := by
  induction ps generalizing r with
  | nil => simp [writeAll, he]
  | cons p ps ih =>
    simp only [writeAll, he, Option.isSome_none, Bool.false_eq_true, if_false]
    have := ih (r.write bufWriter p) (by simp [WR.write, bufWriter])
    simp only [WR.write, bufWriter] at this ⊢
    simp [this, List.append_assoc, Nat.add_assoc]

end GoSSE.Proofs
