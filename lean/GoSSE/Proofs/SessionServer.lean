import GoSSE.Proofs.Session
/-!
Helper lemmas for C16, second part: what one `Send` / `Flush` means for the body and for the specification's
per-call predicates, and `getResponseWriter` / `Upgrade` / `ServeHTTP` against the specification's functions.
-/
namespace GoSSE.Proofs.Session
open GoSSE GoSSE.Model.Session GoSSE.Model.Server GoSSE.Spec.HttpLog

theorem flush_cases (sched : Sched) (s : Session) (c : Nat) :
    ∃ pre, (pre = [] ∨ pre = [upgradeHeader s.res]) ∧
      (flush sched s c).evs = pre ++ [.flush s.res.lvl s.res.kind (flush sched s c).err] := by
  cases h : s.didUpgrade with
  | true => rw [flush_upgraded h rfl]; exact ⟨[], Or.inl rfl, rfl⟩
  | false => rw [flush_fresh h, doUpgrade_fresh h rfl]; exact ⟨_, Or.inr rfl, rfl⟩

/-- What one call contributed to the response body. `Flush`: nothing. `Send m` that returned nil: `encode m`. `Send m` that
returned the error of writer call `k`: nothing (the upgrade flush failed), or the writes before the failing `j`-th `Write`
of the message in full and the first `n` bytes of that one, `n` as the schedule says. -/
def Contribution (sched : Sched) (e : Entry) : Prop :=
  match e.op with
  | .flush => bodyOf e.evs = []
  | .send m =>
    (e.ret = none ∧ bodyOf e.evs = encode m) ∨
    (∃ k, e.ret = some k ∧
      ((∀ x ∈ e.evs, x.isWrite = false) ∧ bodyOf e.evs = [] ∨
       ∃ j p n, (encodeWrites m)[j]? = some p ∧ sched k = some n ∧
         bodyOf e.evs = ((encodeWrites m).take j).flatten ++ p.take n))

theorem step_contribution (sched : Sched) (s : Session) (c : Nat) (op : Op) :
    Contribution sched ⟨op, (step sched s c op).evs, (step sched s c op).err⟩ := by
  cases op with
  | flush =>
    obtain ⟨pre, hpre, h⟩ := flush_cases sched s c
    show bodyOf (flush sched s c).evs = []
    rw [h]
    rcases hpre with rfl | rfl <;> rfl
  | send m =>
    simp only [Contribution, step]
    cases h : (doUpgrade sched s c).err with
    | some k =>
      rw [send_of_upgrade_fail m h]
      exact Or.inr ⟨k, h, Or.inl ⟨doUpgrade_noWrite sched s c, bodyOf_eq_nil (doUpgrade_noWrite sched s c)⟩⟩
    | none =>
      -- the upgrade (if any) adds no body byte; the rest is `writeAll`'s
      rw [send_of_upgrade_ok m h]
      simp only [bodyOf_append, bodyOf_eq_nil (doUpgrade_noWrite sched s c), List.nil_append]
      rcases writeAll_body sched s.res.lvl (encodeWrites m) (doUpgrade sched s c).calls with
        ⟨h3, h4⟩ | ⟨j, p, n, h3, h4, h5, h6⟩
      · exact Or.inl ⟨h3, h4⟩
      · exact Or.inr ⟨_, h5, Or.inr ⟨j, p, n, h3, h4, h6⟩⟩

theorem Contribution.prefix {sched : Sched} {e : Entry} {m : Msg} (h : Contribution sched e) (hop : e.op = .send m) :
    bodyOf e.evs <+: encode m := by
  simp only [Contribution, hop] at h
  rcases h with ⟨_, h⟩ | ⟨k, _, ⟨_, h⟩ | ⟨j, p, n, h1, _, h2⟩⟩
  · rw [h]; exact List.prefix_refl _
  · rw [h]; exact List.nil_prefix
  · rw [h2]; exact take_flatten_prefix _ _ _ _ h1

theorem Contribution.of_ok {sched : Sched} {evs : List Ev} {m : Msg} (h : Contribution sched ⟨.send m, evs, none⟩) :
    bodyOf evs = encode m := by
  rcases (h : (_ ∧ bodyOf evs = encode m) ∨ _) with ⟨_, h⟩ | ⟨k, h, _⟩
  · exact h
  · cases h

def sentMsgs : List Op → List Msg
  | [] => []
  | .send m :: t => m :: sentMsgs t
  | .flush :: t => sentMsgs t

theorem body_all_ok (sched : Sched) (obs : List Entry) (hc : ∀ e ∈ obs, Contribution sched e)
    (hr : ∀ e ∈ obs, e.ret = none) :
    (obs.map fun e => bodyOf e.evs).flatten = (sentMsgs (obs.map (·.op))).flatMap encode := by
  induction obs with
  | nil => rfl
  | cons e t ih =>
    obtain ⟨h1, hc'⟩ := List.forall_mem_cons.mp hc
    obtain ⟨h2, hr'⟩ := List.forall_mem_cons.mp hr
    obtain ⟨op, evs, ret⟩ := e
    cases h2
    rw [List.map_cons, List.flatten_cons, List.map_cons, ih hc' hr']
    cases op with
    | flush => exact congrArg (· ++ _) (h1 : bodyOf evs = [])
    | send m => rw [h1.of_ok]; exact List.flatMap_cons.symm

theorem step_retOK (sched : Sched) (s : Session) (c : Nat) (op : Op) :
    retOK ⟨op, (step sched s c op).evs, (step sched s c op).err⟩ = true :=
  beq_iff_eq.mpr (step_facts sched s c op).good.firstErr.symm

theorem Contribution.bodyOK {sched : Sched} {e : Entry} (h : Contribution sched e) : bodyOK e = true := by
  obtain ⟨op, evs, ret⟩ := e
  cases op with
  | flush => exact beq_iff_eq.mpr h
  | send m =>
    cases ret with
    | some k => exact List.isPrefixOf_iff_prefix.mpr (h.prefix rfl)
    | none => exact beq_iff_eq.mpr h.of_ok

theorem step_flushOK (sched : Sched) (s : Session) (c : Nat) (op : Op) :
    flushOK ⟨op, (step sched s c op).evs, (step sched s c op).err⟩ = true := by
  cases op with
  | send m => rfl
  | flush =>
    obtain ⟨pre, hpre, h⟩ := flush_cases sched s c
    simp only [flushOK, step, h]
    rcases hpre with rfl | rfl <;> cases (flush sched s c).err <;> rfl

theorem run_all {p : Entry → Bool} (sched : Sched)
    (h : ∀ s c op, p ⟨op, (step sched s c op).evs, (step sched s c op).err⟩ = true)
    (s : Session) (c : Nat) (ops : List Op) : (runOps sched s c ops).obs.all p = true :=
  List.all_eq_true.mpr fun _ he => by
    obtain ⟨s', c', op, _, rfl⟩ := run_entry he
    exact h s' c' op

theorem pick_eq (c : Caps) :
    c.pick = if canFlush c then some (if reportsErrors c then .flushError else .flusher) else none := by
  cases c <;> rfl

theorem resolve_cons (c : Caps) (ls : List Caps) :
    resolve (c :: ls) = if canFlush c then some ⟨0, if reportsErrors c then .flushError else .flusher⟩
      else (resolve ls).map fun r => ⟨r.lvl + 1, r.kind⟩ := by
  cases c with
  | plain =>
    simp only [resolve, List.find?_cons, List.findIdx?_cons, canFlush, Bool.false_eq_true, if_false]
    cases ls.find? canFlush <;> cases ls.findIdx? canFlush <;> rfl
  | _ => rfl

theorem getResponseWriter_resolve (shape : Shape) (lvl : Nat) :
    getResponseWriter shape lvl = (resolve (layers shape)).map fun r => ⟨lvl + r.lvl, r.kind⟩ := by
  induction shape generalizing lvl with
  | base c => cases c <;> rfl
  | wrapped c inner ih =>
    cases c with
    | plain =>
      -- a layer that cannot flush is unwrapped: the inner answer, one level further in
      rw [layers, resolve_cons, if_neg (c := canFlush Caps.plain = true) Bool.false_ne_true, Option.map_map,
        show getResponseWriter (.wrapped .plain inner) lvl = getResponseWriter inner (lvl + 1) from rfl, ih]
      congr 1
      funext r
      simp only [Function.comp, Nat.add_assoc, Nat.add_comm 1]
    | _ => rfl

theorem getResponseWriter_zero (shape : Shape) : getResponseWriter shape 0 = resolve (layers shape) := by
  rw [getResponseWriter_resolve]
  cases resolve (layers shape) <;> simp

theorem lookup_eq_find (h : Header) (k : Bytes) :
    h.lookup k = (h.find? fun kv => kv.1 == k).map (·.2) := by
  induction h with
  | nil => rfl
  | cons kv t ih =>
    rw [List.lookup_cons, List.find?_cons, Bool.beq_comm (a := kv.1)]
    cases k == kv.1
    · exact ih
    · rfl

theorem hasNewline_cons (b : Byte) (t : Bytes) : hasNewline (b :: t) = (isNl b || hasNewline t) := by
  simp only [hasNewline, isNl, List.contains_cons, Bool.beq_comm (a := b)]
  rw [Bool.or_assoc, Bool.or_assoc, Bool.or_left_comm (t.contains 10)]

theorem isSingleLine_eq (v : Bytes) : isSingleLine v = !hasNewline v := by
  induction v with
  | nil => rfl
  | cons b t ih => rw [hasNewline_cons, Bool.not_or, ← ih]; rfl

theorem hasNewline_iff (v : Bytes) : hasNewline v = true ↔ 10 ∈ v ∨ 13 ∈ v := by
  simp only [hasNewline, Bool.or_eq_true, List.contains_iff_mem]

theorem lastEventIDOf_of_lookup {h : Header} {v : Bytes} {rest : List Bytes}
    (h0 : h.lookup headerLastEventID = some (v :: rest)) :
    lastEventIDOf h = if v.isEmpty || hasNewline v then none else some v := by
  rw [lastEventIDOf, h0]
  show (if v.isEmpty then none else newID v) = _
  rw [newID, isSingleLine_eq]
  cases v.isEmpty <;> cases hasNewline v <;> rfl

theorem lastEventIDOf_eq (h : Header) : lastEventIDOf h = expectedLastEventID h := by
  have hl := lookup_eq_find h headerLastEventID
  unfold expectedLastEventID
  cases hf : h.find? (fun kv => kv.1 == headerLastEventID) with
  | none => rw [hf] at hl; rw [lastEventIDOf, hl]; rfl
  | some kv =>
    rw [hf] at hl
    obtain ⟨k, _ | ⟨v, t⟩⟩ := kv
    · rw [lastEventIDOf, hl]; rfl
    · exact lastEventIDOf_of_lookup hl

theorem answers500_httpError (sched : Sched) (calls : Nat) (text : Bytes) :
    answers500 (httpError sched calls text 500) = true := rfl

/-- what `ServeHTTP` adds once `Subscribe` has returned: a 500 carrying the error's text, if there is one -/
def errorTail (sched : Sched) (calls : Nat) : Option Bytes → List Ev
  | none => []
  | some text => httpError sched calls text 500

/-- the last test of `checkServed` — refused, nothing sent, and no 500 — never fires on what `ServeHTTP` adds -/
theorem refused_answered (sched : Sched) (calls : Nat) (p : Option Bytes) (sent : Bool) :
    (p.isSome && sent && !answers500 (errorTail sched calls p)) = false := by
  cases p <;> cases sent <;> rfl

theorem getSubscription_accepted (lid : Option Bytes) (onSession : Option OnSessionB)
    (hok : ∀ b, onSession = some b → b.ok = true) :
    getSubscription lid (onSession.map fun b => (b.topics, b.ok)) = (⟨lid, expectedTopics onSession⟩, true) := by
  cases onSession with
  | none => rfl
  | some b =>
    obtain ⟨acts, topics, ok⟩ := b
    cases (hok _ rfl : ok = true)
    cases topics <;> rfl

theorem serveHTTP_unsupported {shape : Shape} (sched : Sched) (h : Header) (onSession : Option OnSessionB)
    (prov : ProviderB) (hres : resolve (layers shape) = none) :
    serveHTTP sched shape h onSession prov = ⟨false, [], none, [], httpError sched 0 unsupportedText 500⟩ := by
  simp only [serveHTTP, upgrade, getResponseWriter_zero, hres]

theorem serveHTTP_rejected {shape : Shape} {res : Res} {b : OnSessionB} (sched : Sched) (h : Header)
    (prov : ProviderB) (hres : resolve (layers shape) = some res) (hrej : b.ok = false) :
    serveHTTP sched shape h (some b) prov = ⟨true, (runActs sched res 0 b.acts).1, none, [], []⟩ := by
  simp [serveHTTP, upgrade, getResponseWriter_zero, hres, getSubscription, hrej]

theorem accepted_or_rejected (onSession : Option OnSessionB) :
    (∀ b, onSession = some b → b.ok = true) ∨ ∃ b, onSession = some b ∧ b.ok = false := by
  cases onSession with
  | none => exact Or.inl nofun
  | some b =>
    cases hb : b.ok with
    | false => exact Or.inr ⟨b, rfl, hb⟩
    | true => exact Or.inl fun _ h => Option.some.inj h ▸ hb

theorem serveHTTP_accepted {shape : Shape} {res : Res} {onSession : Option OnSessionB} (sched : Sched) (h : Header)
    (prov : ProviderB) (hres : resolve (layers shape) = some res) (hok : ∀ b, onSession = some b → b.ok = true) :
    serveHTTP sched shape h onSession prov =
      let pre := match onSession with
        | some b => runActs sched res 0 b.acts
        | none => ([], 0)
      let r := runOps sched ⟨res, false⟩ pre.2 prov.ops
      ⟨onSession.isSome, pre.1, some ⟨expectedLastEventID h, expectedTopics onSession⟩, r.obs,
       errorTail sched r.calls (provError prov.ret r.obs)⟩ := by
  simp only [serveHTTP, upgrade, getResponseWriter_zero, hres, lastEventIDOf_eq,
    getSubscription_accepted _ _ hok, Bool.not_true, Bool.false_eq_true, if_false]
  -- the model's two answers, by what the provider returned, differ in the tail only: that is `errorTail`
  generalize provError _ _ = p
  cases p <;> rfl

end GoSSE.Proofs.Session
