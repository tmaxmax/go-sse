import GoSSE.GoRT
/-!
# Go maps as association lists (`GoRT.mapGet / mapSet / mapDel / mapPut / mapDelIn / mapInner`): lookup laws

For any key type with a lawful `==`. None of the laws needs the "one entry per key" invariant: `mapDel` removes every
entry of the key, `mapSet` rewrites every entry of the key, `mapGet` reads the first.
-/
namespace GoSSE.MapL
open GoSSE GoSSE.GoRT

variable {κ ν : Type} [BEq κ]

theorem get_nil (k : κ) : mapGet ([] : List (κ × ν)) k = none := rfl

theorem put_of_some (m : List (κ × ν)) (k : κ) (v : ν) (h : (mapGet m k).isSome) : mapPut m k v = mapSet m k v :=
  if_pos h

theorem put_of_none (m : List (κ × ν)) (k : κ) (v : ν) (h : mapGet m k = none) : mapPut m k v = m ++ [(k, v)] :=
  if_neg (by rw [h]; exact Bool.false_ne_true)

theorem mem_of_mem_del (m : List (κ × ν)) (k : κ) (e : κ × ν) (h : e ∈ mapDel m k) : e ∈ m :=
  (List.mem_filter.1 h).1

theorem set_append (m m' : List (κ × ν)) (k : κ) (v : ν) : mapSet (m ++ m') k v = mapSet m k v ++ mapSet m' k v :=
  List.map_append

/-- the inner map of a map of maps as a reader sees it: nil (no entry) reads as empty -/
def inner {ι : Type} (m : List (κ × List (ι × ν))) (k : κ) : List (ι × ν) := (mapGet m k).getD []

variable [LawfulBEq κ]

section
-- the cons equations test `a = k` under any `DecidableEq κ`, so that they rewrite whichever instance a goal carries
variable [DecidableEq κ]

theorem get_cons (a : κ) (b : ν) (m : List (κ × ν)) (k : κ) :
    mapGet ((a, b) :: m) k = if a = k then some b else mapGet m k := by
  by_cases h : a = k
  · simp only [mapGet, List.find?, h, BEq.rfl, Option.map_some, if_true]
  · simp only [mapGet, List.find?, beq_false_of_ne h, h, if_false]

theorem set_cons (a : κ) (b : ν) (m : List (κ × ν)) (k : κ) (v : ν) :
    mapSet ((a, b) :: m) k v = (if a = k then (k, v) else (a, b)) :: mapSet m k v := by
  simp only [mapSet, List.map_cons, beq_iff_eq]

theorem del_cons (a : κ) (b : ν) (m : List (κ × ν)) (k : κ) :
    mapDel ((a, b) :: m) k = if a = k then mapDel m k else (a, b) :: mapDel m k := by
  by_cases h : a = k
  · simp only [mapDel, List.filter, h, BEq.rfl, Bool.not_true, if_true]
  · simp only [mapDel, List.filter, beq_false_of_ne h, Bool.not_false, h, if_false]

theorem get_append_single (m : List (κ × ν)) (k k' : κ) (v : ν) :
    mapGet (m ++ [(k, v)]) k' = match mapGet m k' with
      | some x => some x
      | none => if k = k' then some v else none := by
  induction m with
  | nil => exact get_cons k v [] k'
  | cons e m ih =>
    obtain ⟨a, b⟩ := e
    rw [List.cons_append, get_cons, get_cons]
    by_cases hak : a = k'
    · rw [if_pos hak, if_pos hak]
    · rw [if_neg hak, if_neg hak, ih]

end

/-- the laws below go through the cons equations, with the equality test a lawful `==` gives -/
local instance : DecidableEq κ := fun _ _ => decidable_of_decidable_of_iff beq_iff_eq

theorem get_set_self (m : List (κ × ν)) (k : κ) (v : ν) (h : (mapGet m k).isSome) :
    mapGet (mapSet m k v) k = some v := by
  induction m with
  | nil => cases h
  | cons e m ih =>
    obtain ⟨a, b⟩ := e
    by_cases hak : a = k
    · rw [set_cons, if_pos hak, get_cons, if_pos rfl]
    · rw [get_cons, if_neg hak] at h
      rw [set_cons, if_neg hak, get_cons, if_neg hak, ih h]

theorem get_set_other (m : List (κ × ν)) (k k' : κ) (v : ν) (h : k' ≠ k) :
    mapGet (mapSet m k v) k' = mapGet m k' := by
  induction m with
  | nil => rfl
  | cons e m ih =>
    obtain ⟨a, b⟩ := e
    by_cases hak : a = k
    · rw [set_cons, if_pos hak, get_cons, get_cons, if_neg (Ne.symm h), if_neg (hak ▸ Ne.symm h), ih]
    · rw [set_cons, if_neg hak, get_cons, get_cons, ih]

theorem get_del_self (m : List (κ × ν)) (k : κ) : mapGet (mapDel m k) k = none := by
  induction m with
  | nil => rfl
  | cons e m ih =>
    obtain ⟨a, b⟩ := e
    by_cases hak : a = k
    · rw [del_cons, if_pos hak, ih]
    · rw [del_cons, if_neg hak, get_cons, if_neg hak, ih]

theorem get_del_other (m : List (κ × ν)) (k k' : κ) (h : k' ≠ k) :
    mapGet (mapDel m k) k' = mapGet m k' := by
  induction m with
  | nil => rfl
  | cons e m ih =>
    obtain ⟨a, b⟩ := e
    by_cases hak : a = k
    · rw [del_cons, if_pos hak, get_cons, if_neg (hak ▸ Ne.symm h), ih]
    · rw [del_cons, if_neg hak, get_cons, get_cons, ih]

theorem get_put_self (m : List (κ × ν)) (k : κ) (v : ν) : mapGet (mapPut m k v) k = some v := by
  cases h : mapGet m k with
  | some x => rw [put_of_some m k v (by rw [h]; rfl), get_set_self m k v (by rw [h]; rfl)]
  | none => rw [put_of_none m k v h, get_append_single, h]; exact if_pos rfl

theorem get_put_other (m : List (κ × ν)) (k k' : κ) (v : ν) (h : k' ≠ k) :
    mapGet (mapPut m k v) k' = mapGet m k' := by
  cases hk : mapGet m k with
  | some x => rw [put_of_some m k v (by rw [hk]; rfl), get_set_other m k k' v h]
  | none =>
    rw [put_of_none m k v hk, get_append_single]
    cases mapGet m k' with
    | some y => rfl
    | none => exact if_neg (Ne.symm h)

theorem get_none_key (m : List (κ × ν)) (k : κ) (h : mapGet m k = none) : ∀ e ∈ m, e.1 ≠ k := by
  induction m with
  | nil => intro e he; cases he
  | cons x m ih =>
    obtain ⟨a, b⟩ := x
    rw [get_cons] at h
    by_cases hak : a = k
    · rw [if_pos hak] at h; cases h
    · rw [if_neg hak] at h
      intro e he
      cases he with
      | head => exact hak
      | tail _ hm => exact ih h e hm

theorem mem_of_get (m : List (κ × ν)) (k : κ) (v : ν) (h : mapGet m k = some v) : (k, v) ∈ m := by
  induction m with
  | nil => cases h
  | cons e m ih =>
    obtain ⟨a, b⟩ := e
    rw [get_cons] at h
    by_cases hak : a = k
    · rw [if_pos hak] at h
      cases h; subst hak; exact List.mem_cons_self
    · rw [if_neg hak] at h
      exact List.mem_cons_of_mem _ (ih h)

theorem set_absent (m : List (κ × ν)) (k : κ) (v : ν) (h : mapGet m k = none) : mapSet m k v = m := by
  have hk := get_none_key m k h
  calc m.map (fun e => if (e.1 == k) = true then (k, v) else e) = m.map id :=
        List.map_congr_left fun e he => if_neg (fun c => hk e he (eq_of_beq c))
    _ = m := List.map_id m

theorem set_set (m : List (κ × ν)) (k : κ) (a b : ν) : mapSet (mapSet m k a) k b = mapSet m k b := by
  unfold mapSet
  rw [List.map_map]
  apply List.map_congr_left
  intro e _
  by_cases h : (e.1 == k) = true
  · rw [Function.comp_apply, if_pos h, if_pos h, if_pos BEq.rfl]
  · rw [Function.comp_apply, if_neg h, if_neg h]

theorem put_put_self (m : List (κ × ν)) (k : κ) (a b : ν) : mapPut (mapPut m k a) k b = mapPut m k b := by
  rw [put_of_some _ k b (by rw [get_put_self]; rfl)]
  cases h : mapGet m k with
  | some x =>
    have hs : (mapGet m k).isSome := by rw [h]; rfl
    rw [put_of_some m k a hs, put_of_some m k b hs, set_set]
  | none =>
    rw [put_of_none m k a h, put_of_none m k b h, set_append, set_absent m k b h, set_cons, if_pos rfl]; rfl

theorem inner_put_self {ι : Type} (m : List (κ × List (ι × ν))) (k : κ) (x : List (ι × ν)) :
    inner (mapPut m k x) k = x := by rw [inner, get_put_self]; rfl

theorem inner_put_other {ι : Type} (m : List (κ × List (ι × ν))) (k k' : κ) (x : List (ι × ν)) (h : k' ≠ k) :
    inner (mapPut m k x) k' = inner m k' := by rw [inner, get_put_other m k k' x h]; rfl

theorem inner_del_self {ι : Type} (m : List (κ × List (ι × ν))) (k : κ) : inner (mapDel m k) k = [] := by
  rw [inner, get_del_self]; rfl

theorem inner_del_other {ι : Type} (m : List (κ × List (ι × ν))) (k k' : κ) (h : k' ≠ k) :
    inner (mapDel m k) k' = inner m k' := by rw [inner, get_del_other m k k' h]; rfl

theorem inner_delIn_self {ι : Type} [BEq ι] (m : List (κ × List (ι × ν))) (k : κ) (i : ι) :
    inner (mapDelIn m k i) k = mapDel (inner m k) i := by
  unfold mapDelIn inner
  cases h : mapGet m k with
  | none => simp only [h]; rfl
  | some x => simp only [get_set_self m k _ (by rw [h]; rfl), Option.getD_some]

theorem inner_delIn_other {ι : Type} [BEq ι] (m : List (κ × List (ι × ν))) (k k' : κ) (i : ι) (h : k' ≠ k) :
    inner (mapDelIn m k i) k' = inner m k' := by
  unfold mapDelIn inner
  cases hk : mapGet m k with
  | none => rfl
  | some x => simp only [get_set_other m k k' _ h]

end GoSSE.MapL
