import GoSSE.Gen.Upgrade
import GoSSE.Proofs.GenEquivFields
/-!
# `sse.Upgrade` as translated from session.go

Which response writer the session gets is `getResponseWriter`'s answer — a parameter of the translated function (any
function stands for it; its own model is `Model/Server.lean`, tied by the SERVE / SESS correspondence). Given that answer:
`nil` means `ErrUpgradeUnsupported` and no session; otherwise the session holds that writer and the request, has not
upgraded yet, and its `LastEventID` is the model's `upgradeLastEventID` of the values stored under the canonical
`Last-Event-Id` key — unset when there are none, when the first is empty or when it is not a single line.
-/
namespace GoSSE.GenEquiv
open GoSSE GoSSE.GoRT GoSSE.Model

/-- the canonical key `Upgrade` indexes the header map with -/
def lastEventIdKey : Bytes := [76, 97, 115, 116, 45, 69, 118, 101, 110, 116, 45, 73, 100]

/-- the session `Upgrade` returns for writer `rw`, request `r` and last event ID `f` -/
def sessOf {σ : Type} (rw : ResW σ) (r : HttpReq) (f : MField) : Gen.Session σ :=
  ⟨rw, some r, ⟨toGenF f⟩, false⟩

theorem Upgrade_eq {σ : Type} (fuel : Nat) (w : HttpRW) (r : HttpReq) (grw : HttpRW → Option (ResW σ))
    (hf : ∀ v ∈ (headerGet r.Header lastEventIdKey).head?, v.length < fuel) :
    Gen.Upgrade fuel w r grw =
      .ok (match grw w with
           | none => (none, some "ErrUpgradeUnsupported", r)
           | some rw => (some (sessOf rw r (upgradeLastEventID (headerGet r.Header lastEventIdKey))), none, r)) := by
  unfold Gen.Upgrade
  simp only [lastEventIdKey] at hf ⊢
  generalize headerGet r.Header _ = hs at hf ⊢
  cases grw w with
  | none => rfl
  | some rw =>
    cases hs with
    | nil => rfl
    | cons h0 t =>
      -- the guard `len(h) != 0 && h[0] != ""` reads the first value
      have hi : idx (h0 :: t) (0 : Int) = .ok h0 := idx_ok (h0 :: t) 0 (Nat.zero_lt_succ _)
      have hl : (len (h0 :: t) != (0 : Int)) = true :=
        bne_iff_ne.mpr (Int.natCast_ne_zero.mpr (Nat.succ_ne_zero t.length))
      simp only [Option.isNone_some, Bool.false_eq_true, if_false, hl, if_true, hi, bind, Except.bind, pure,
        Except.pure, derefPtr]
      by_cases he : h0 = []
      · subst he; rfl
      · obtain ⟨err, hn, _⟩ := NewID_eq fuel h0 (hf h0 rfl)
        simp only [bne_iff_ne.mpr he, if_true, hn, upgradeLastEventID, List.isEmpty_iff, he, if_false]
        rfl

end GoSSE.GenEquiv
