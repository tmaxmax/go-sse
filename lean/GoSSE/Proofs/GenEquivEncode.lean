import GoSSE.Proofs.GenEquivWrite
import GoSSE.Proofs.MessageWrite
import GoSSE.Proofs.MessageBuild
/-!
# `Message.MarshalText` and `Message.String` as translated: `WriteTo` into a buffer

(`strings.Builder` / `bytes.Buffer` are the bytes written so far; handed to `WriteTo` as an `io.Writer` they are the
writer `GoRT.bufWriter`, which appends and never fails.)
-/
namespace GoSSE.GenEquiv
open GoSSE GoSSE.GoRT GoSSE.Model GoSSE.Spec GoSSE.Proofs

/-- the model's buffer writer with `String` errors (it never returns one) -/
def bufW : Model.Writer Bytes String := ⟨fun st p => (p.length, none, st ++ p)⟩

theorem bufW_obeys : bufW.Obeys := by
  intro st p; simp [bufW]

theorem toGenW_bufW (st : Bytes) : toGenW bufW st = GoRT.bufWriter st := rfl

theorem bufW_writeAll (r : WR Bytes String) (ps : List Bytes) (he : r.err = none) :
    (writeAll bufW r ps).st = r.st ++ ps.flatten ∧ (writeAll bufW r ps).err = none ∧
      (writeAll bufW r ps).n = r.n + ps.flatten.length := by
  induction ps generalizing r with
  | nil => simp [writeAll, he]
  | cons p ps ih =>
    simp only [writeAll, he, Option.isSome_none, Bool.false_eq_true, if_false]
    have := ih (r.write bufW p) (by simp [WR.write, bufW])
    simp only [WR.write, bufW] at this ⊢
    simp [this, List.append_assoc, Nat.add_assoc]

theorem writeTo_bufW (m : Message) (hm : m.retry ≤ (maxInt64 : Int)) :
    (m.writeTo bufW []).st = m.encode ∧ (m.writeTo bufW []).err = none ∧ (m.writeTo bufW []).panic = false := by
  rw [writeTo_eq_writeAll bufW bufW_obeys [] m (retryOK_of_le m hm)]
  have b := bufW_writeAll (r0 []) m.writes rfl
  exact ⟨b.1, b.2.1, writeAll_panic _ _ _⟩

theorem WriteTo_bufW (fuel : Nat) (m : Message) (hf : 13 < fuel) (hc : m.chunks.length < fuel) (hm : m.retry ≤ (maxInt64 : Int)) :
    Gen.Message_WriteTo fuel (toGenMsg m) (GoRT.bufWriter []) =
      .ok (((m.writeTo bufW []).n : Int), none, toGenMsg m, GoRT.bufWriter m.encode) := by
  obtain ⟨h1, h2, h3⟩ := writeTo_bufW m hm
  rw [← toGenW_bufW, WriteTo_eq fuel bufW [] m hf hc, okOrPanic_of _ _ _ h3, okOf, h1, h2, toGenW_bufW]

theorem MessageString_eq (fuel : Nat) (m : Message) (hf : 13 < fuel) (hc : m.chunks.length < fuel) (hm : m.retry ≤ (maxInt64 : Int)) :
    Gen.Message_String fuel (toGenMsg m) = .ok (m.encode, toGenMsg m) := by
  show (Gen.Message_WriteTo fuel (toGenMsg m) (GoRT.bufWriter []) >>= _) = _
  rw [WriteTo_bufW fuel m hf hc hm]; rfl

theorem MarshalText_eq (fuel : Nat) (m : Message) (hf : 13 < fuel) (hc : m.chunks.length < fuel) (hm : m.retry ≤ (maxInt64 : Int)) :
    Gen.Message_MarshalText fuel (toGenMsg m) = .ok (m.encode, none, toGenMsg m) := by
  show (Gen.Message_WriteTo fuel (toGenMsg m) (GoRT.bufWriter []) >>= _) = _
  rw [WriteTo_bufW fuel m hf hc hm]; rfl

end GoSSE.GenEquiv
