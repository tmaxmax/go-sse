import GoSSE.Proofs.Lines
/-!
The piece scanner `pieceLen` (lexical event boundaries), the loop of `splitFunc` on the line
decomposition of its buffer, and the token `splitFunc` returns.
-/
namespace GoSSE.Proofs
open GoSSE GoSSE.Spec GoSSE.Model

theorem isNl_10 : isNl 10 = true := by decide
theorem isNl_13 : isNl 13 = true := by decide

def AllNl (l : Bytes) : Prop := ∀ b ∈ l, isNl b = true
def HeadNotNl (l : Bytes) : Prop := ∀ b, l.head? = some b → isNl b = false
def LastIsNl (l : Bytes) : Prop := ∃ b, l.getLast? = some b ∧ isNl b = true

theorem AllNl.append {a b : Bytes} (ha : AllNl a) (hb : AllNl b) : AllNl (a ++ b) :=
  List.forall_mem_append.2 ⟨ha, hb⟩

theorem AllNl.tail {b : Byte} {l : Bytes} (h : AllNl (b :: l)) : AllNl l := (List.forall_mem_cons.1 h).2

theorem head?_append_of_ne_nil (a b : Bytes) (h : a ≠ []) : (a ++ b).head? = a.head? := by
  cases a with
  | nil => exact absurd rfl h
  | cons x t => rfl

theorem headNotNl_nil : HeadNotNl [] := fun _ h => nomatch h

theorem NlFree.headNotNl {l : Bytes} (h : NlFree l) : HeadNotNl l :=
  fun b hb => h b (List.mem_of_mem_head? hb)

theorem HeadNotNl.append {a b : Bytes} (ha : HeadNotNl a) (hb : HeadNotNl b) : HeadNotNl (a ++ b) := by
  cases a with
  | nil => exact hb
  | cons c a' => exact ha

theorem HeadNotNl.append_of_ne_nil {a : Bytes} (ha : HeadNotNl a) (h0 : a ≠ []) (b : Bytes) : HeadNotNl (a ++ b) := by
  cases a with
  | nil => exact absurd rfl h0
  | cons c a' => exact ha

/-- the exit test `isNl(rest[0])` of `splitFunc`'s loop; the model reads a missing byte as 0 -/
theorem headNotNl_of_headD {t : Bytes} (h : ¬ isNl (t.headD 0) = true) : HeadNotNl t := by
  cases t with
  | nil => exact headNotNl_nil
  | cons c t => intro b hb; obtain rfl : c = b := Option.some.inj hb; exact Bool.eq_false_iff.2 h

theorem exists_term_of_headD {t : Bytes} (h : isNl (t.headD 0) = true) :
    ∃ term t', t = term ++ t' ∧ IsTerm term t' := by
  cases t with
  | nil => exact absurd h (by decide)
  | cons c t => exact exists_term_of_isNl c t h

theorem IsTerm.allNl {term t} (h : IsTerm term t) : AllNl term := by
  have h10 : AllNl [10] := fun b hb => List.mem_singleton.1 hb ▸ isNl_10
  have h13 : AllNl [13] := fun b hb => List.mem_singleton.1 hb ▸ isNl_13
  rcases h with rfl | rfl | ⟨rfl, _⟩
  · exact h10
  · exact h13.append h10
  · exact h13
theorem IsTerm.lastIsNl {term t} (h : IsTerm term t) (p : Bytes) : LastIsNl (p ++ term) := by
  rcases h with h | h | ⟨h, _⟩ <;> subst h
  · exact ⟨10, by simp, by decide⟩
  · exact ⟨10, by simp, by decide⟩
  · exact ⟨13, by simp, by decide⟩
theorem IsTerm.last_cr {term t} (h : IsTerm term t) (p : Bytes) (hl : (p ++ term).getLast? = some 13) :
    t.head? ≠ some 10 := by
  rcases h with h | h | ⟨h, ht⟩ <;> subst h
  · simp at hl
  · simp at hl
  · exact ht
theorem IsTerm.not_headNotNl {term t} (h : IsTerm term t) (x : Bytes) (hn : HeadNotNl (term ++ x)) : False := by
  cases term with
  | nil => exact h.ne_nil rfl
  | cons b term' => exact Bool.false_ne_true ((hn b rfl).symm.trans (h.allNl b List.mem_cons_self))

/-- Length of the first *piece* of a stream: blank lines, the non-blank lines of an event and the
terminator of the blank line that closes it (a CRLF in full); `none` if there is no complete piece.
States: `0` in the leading blank lines, `1` inside a non-blank line, `2` at a line start after a
non-blank line, `3` the same after a lone CR (an LF would still belong to it). -/
def pieceLen : Bytes → Nat → Option Nat
  | [], _ => none
  | b :: t, 0 => if isNl b then (pieceLen t 0).map (· + 1) else (pieceLen t 1).map (· + 1)
  | b :: t, 1 =>
    if b == 10 then (pieceLen t 2).map (· + 1)
    else if b == 13 then (pieceLen t 3).map (· + 1)
    else (pieceLen t 1).map (· + 1)
  | b :: t, 2 =>
    if b == 10 then some 1
    else if b == 13 then some (if t.head? == some 10 then 2 else 1)
    else (pieceLen t 1).map (· + 1)
  | b :: t, _ + 3 =>
    if b == 10 then (pieceLen t 2).map (· + 1)
    else if b == 13 then some (if t.head? == some 10 then 2 else 1)
    else (pieceLen t 1).map (· + 1)

theorem omap_add (x : Option Nat) (a b : Nat) : (x.map (· + a)).map (· + b) = x.map (· + (a + b)) := by
  cases x <;> simp [Nat.add_assoc]

theorem omap_zero (x : Option Nat) : x.map (· + 0) = x := by cases x <;> simp

theorem omap_pos (x : Option Nat) (n : Nat) (h : x.map (· + 1) = some n) : 0 < n := by
  cases x with
  | none => simp at h
  | some v => simp at h; omega

theorem pieceLen_pos (Y : Bytes) (σ n : Nat) (h : pieceLen Y σ = some n) : 0 < n := by
  have hcr : ∀ c : Prop, [Decidable c] → some (if c then 2 else 1) = some n → 0 < n := fun c _ h => by
    cases h; split <;> decide
  cases Y with
  | nil => cases h
  | cons b t =>
    match σ with
    | 0 => rw [pieceLen] at h; split at h <;> exact omap_pos _ _ h
    | 1 =>
      rw [pieceLen] at h
      split at h
      · exact omap_pos _ _ h
      · split at h <;> exact omap_pos _ _ h
    | 2 =>
      rw [pieceLen] at h
      split at h
      · cases h; exact Nat.one_pos
      · split at h
        · exact hcr _ h
        · exact omap_pos _ _ h
    | k + 3 =>
      rw [pieceLen] at h
      split at h
      · exact omap_pos _ _ h
      · split at h
        · exact hcr _ h
        · exact omap_pos _ _ h

theorem pieceLen_blanks (B Y : Bytes) (hB : AllNl B) : pieceLen (B ++ Y) 0 = (pieceLen Y 0).map (· + B.length) := by
  induction B with
  | nil => simp
  | cons b t ih =>
    have hb : isNl b = true := hB b (by simp)
    have ht : AllNl t := hB.tail
    simp only [List.cons_append, pieceLen, hb, if_true, ih ht, omap_add, List.length_cons]

theorem pieceLen_line (l Y : Bytes) (hl : NlFree l) : pieceLen (l ++ Y) 1 = (pieceLen Y 1).map (· + l.length) := by
  induction l with
  | nil => simp
  | cons b t ih =>
    obtain ⟨h10, h13⟩ := (isNl_false_iff b).1 (hl b (by simp))
    have ht : NlFree t := hl.tail
    simp only [List.cons_append, pieceLen, beq_iff_eq, h10, h13, if_false, ih ht, omap_add, List.length_cons]

theorem pieceLen_line_start (l Y : Bytes) (σ : Nat) (hσ : σ ≠ 1) (hl : NlFree l) (hl0 : l ≠ []) :
    pieceLen (l ++ Y) σ = (pieceLen Y 1).map (· + l.length) := by
  cases l with
  | nil => exact absurd rfl hl0
  | cons b t =>
    obtain ⟨h10, h13⟩ := (isNl_false_iff b).1 (hl b (by simp))
    have hb : isNl b = false := hl b (by simp)
    have ht : NlFree t := hl.tail
    have key : pieceLen (b :: (t ++ Y)) σ = (pieceLen (t ++ Y) 1).map (· + 1) := by
      match σ, hσ with
      | 0, _ => simp [pieceLen, hb]
      | 2, _ => simp [pieceLen, h10, h13]
      | k + 3, _ => simp [pieceLen, h10, h13]
    rw [List.cons_append, key, pieceLen_line t Y ht, omap_add, List.length_cons]

def termState (term : Bytes) : Nat := if term = [13] then 3 else 2

theorem pieceLen_term (term t Y : Bytes) (h : IsTerm term t) :
    pieceLen (term ++ Y) 1 = (pieceLen Y (termState term)).map (· + term.length) := by
  rcases h with h | h | ⟨h, _⟩ <;> subst h
  · rfl
  · exact omap_add (pieceLen Y 2) 1 1
  · rfl

theorem pieceLen_lf_close (Y : Bytes) : pieceLen (10 :: Y) 2 = some 1 := rfl

theorem pieceLen_cr_close (Y : Bytes) (σ : Nat) (hσ : 2 ≤ σ) :
    pieceLen (13 :: Y) σ = some (if Y.head? == some 10 then 2 else 1) := by
  match σ, hσ with
  | 2, _ => rfl
  | k + 3, _ => rfl

/-- state of the piece scanner after the part `T` of the token collected so far -/
def sigma (T : Bytes) : Nat :=
  match T.getLast? with
  | none => 0
  | some 13 => 3
  | some 10 => 2
  | some _ => 1

/-- the loop of `splitFunc` moves along the piece scanner -/
def Phi (B T : Bytes) : Prop :=
  ∀ Y, pieceLen (B ++ T ++ Y) 0 = (pieceLen Y (sigma T)).map (· + (B.length + T.length))

theorem phi_nil : Phi [] [] := by intro Y; simp [sigma]

theorem phi_blank (B term : Bytes) (hB : AllNl B) (hterm : AllNl term) : Phi (B ++ term) [] := by
  intro Y
  simp only [List.append_nil, List.length_nil, Nat.add_zero]
  rw [pieceLen_blanks _ Y (hB.append hterm)]
  simp [sigma]

theorem sigma_of_last (T : Bytes) (hT : T = [] ∨ LastIsNl T) : sigma T ≠ 1 := by
  rcases hT with h | ⟨b, hb1, hb2⟩
  · simp [h, sigma]
  · rcases (isNl_true_iff b).1 hb2 with h | h <;> subst h <;> simp [sigma, hb1]

theorem sigma_term (P term t : Bytes) (h : IsTerm term t) : sigma (P ++ term) = termState term := by
  rcases h with h | h | ⟨h, _⟩ <;> subst h <;> simp [sigma, termState]

theorem sigma_noNl (P l : Bytes) (hl : NlFree l) (hl0 : l ≠ []) : sigma (P ++ l) = 1 := by
  obtain ⟨b, hb⟩ : ∃ b, l.getLast? = some b := by
    cases h : l.getLast? with
    | none => simp at h; exact absurd h hl0
    | some b => exact ⟨b, rfl⟩
  have hmem : b ∈ l := List.mem_of_getLast? hb
  obtain ⟨h10, h13⟩ := (isNl_false_iff b).1 (hl b hmem)
  have : (P ++ l).getLast? = some b := by rw [List.getLast?_append, hb]; rfl
  simp only [sigma, this]

theorem phi_line (B T l term t : Bytes) (h : Phi B T) (hT : T = [] ∨ LastIsNl T) (hl : NlFree l) (hl0 : l ≠ [])
    (hterm : IsTerm term t) : Phi B (T ++ (l ++ term)) := by
  intro Y
  have e : B ++ (T ++ (l ++ term)) ++ Y = B ++ T ++ (l ++ (term ++ Y)) := by simp
  rw [e, h, pieceLen_line_start l _ _ (sigma_of_last T hT) hl hl0, pieceLen_term term t Y hterm, omap_add, omap_add]
  have : sigma (T ++ (l ++ term)) = termState term := by
    rw [← List.append_assoc]; exact sigma_term _ term t hterm
  rw [this]
  congr 1
  funext x
  simp only [List.length_append]; omega

theorem phi_tail (B T rest : Bytes) (h : Phi B T) (hT : T = [] ∨ LastIsNl T) (hno : NlFree rest) (hr : rest ≠ []) :
    Phi B (T ++ rest) := by
  intro Y
  have e : B ++ (T ++ rest) ++ Y = B ++ T ++ (rest ++ Y) := by simp
  rw [e, h, pieceLen_line_start rest _ _ (sigma_of_last T hT) hno hr, omap_add, sigma_noNl T rest hno hr]
  congr 1
  funext x
  simp only [List.length_append]; omega

theorem splitLoop_noNl (len fuel : Nat) (rest : Bytes) (adv st : Nat) (h : NlFree rest)
    (hlen : adv + rest.length = len) : splitLoop len (fuel + 1) rest adv st = (len, st) := by
  rw [splitLoop]
  simp only [newlineIndex_noNl rest h, Nat.add_zero, hlen, beq_self_eq_true, Bool.true_or, if_true]
  split <;> rfl

theorem splitLoop_term (len fuel : Nat) (l term t : Bytes) (adv st : Nat) (hl : NlFree l) (ht : IsTerm term t)
    (hlen : adv + (l ++ term ++ t).length = len) :
    splitLoop len (fuel + 1) (l ++ term ++ t) adv st =
      if t = [] ∨ (isNl (t.headD 0) = true ∧ l ≠ [])
      then (adv + l.length + term.length, if l = [] then st + term.length else st)
      else splitLoop len fuel t (adv + l.length + term.length) (if l = [] then st + term.length else st) := by
  have hend : adv + l.length + term.length = len ↔ t = [] := by
    rw [← hlen, ← List.length_eq_zero_iff]; simp only [List.length_append]; omega
  rw [splitLoop]
  simp only [newlineIndex_term l term t hl ht, line_drop]
  have hexit : (adv + l.length + term.length == len || isNl (t.headD 0) && decide (l.length > 0)) = true ↔
      t = [] ∨ isNl (t.headD 0) = true ∧ l ≠ [] := by
    rw [Bool.or_eq_true, Bool.and_eq_true, beq_iff_eq, decide_eq_true_eq, hend, gt_iff_lt, List.length_pos_iff]
  have hblank : (l.length == 0) = true ↔ l = [] := by rw [beq_iff_eq, List.length_eq_zero_iff]
  simp only [hexit, hblank]

theorem splitLoop_blank (len fuel : Nat) (term t : Bytes) (adv st : Nat) (ht : IsTerm term t)
    (hlen : adv + (term ++ t).length = len) :
    splitLoop len (fuel + 1) (term ++ t) adv st =
      if t = [] then (adv + term.length, st + term.length)
      else splitLoop len fuel t (adv + term.length) (st + term.length) := by
  simpa using splitLoop_term len fuel [] term t adv st nofun ht hlen

theorem splitLoop_line (len fuel : Nat) (l term t : Bytes) (adv st : Nat) (hl : NlFree l) (hl0 : l ≠ [])
    (ht : IsTerm term t) (hlen : adv + (l ++ term ++ t).length = len) :
    splitLoop len (fuel + 1) (l ++ term ++ t) adv st =
      if t = [] ∨ isNl (t.headD 0) = true then (adv + l.length + term.length, st)
      else splitLoop len fuel t (adv + l.length + term.length) st := by
  rw [splitLoop_term len fuel l term t adv st hl ht hlen]
  simp only [hl0, ne_eq, not_false_eq_true, and_true, if_false]

/-- `T`, the part of the token collected so far, consists of complete non-blank lines, and the
terminator of its last line does not continue into `rest` -/
structure TokLines (T rest : Bytes) : Prop where
  head : HeadNotNl T
  last : LastIsNl T
  cr : T.getLast? = some 13 → rest.head? ≠ some 10

theorem TokLines.snoc {T l term t : Bytes} (hT : HeadNotNl T) (hl : NlFree l) (hl0 : l ≠ []) (ht : IsTerm term t) :
    TokLines (T ++ (l ++ term)) t where
  head := hT.append (hl.headNotNl.append_of_ne_nil hl0 term)
  last := by rw [← List.append_assoc]; exact ht.lastIsNl (T ++ l)
  cr h := ht.last_cr (T ++ l) (by rwa [List.append_assoc])

/-- loop-head condition of `splitFunc`'s loop -/
def PT (T rest : Bytes) : Prop := T = [] ∨ (TokLines T rest ∧ HeadNotNl rest)
/-- loop-exit condition: at the end of the buffer, or in front of a line terminator -/
def QT (T rest : Bytes) : Prop :=
  HeadNotNl T ∧ (rest ≠ [] → TokLines T rest ∧ ∃ nl rest', rest = nl ++ rest' ∧ IsTerm nl rest')

theorem PT.head {T rest : Bytes} (h : PT T rest) : HeadNotNl T := by
  rcases h with rfl | ⟨h, _⟩
  · exact headNotNl_nil
  · exact h.head

theorem PT.last {T rest : Bytes} (h : PT T rest) : T = [] ∨ LastIsNl T := h.imp id (·.1.last)

/-- the loop from a state in which it has skipped the blank lines `B` and collected `T` -/
theorem splitLoop_spec (len fuel : Nat) (B T rest : Bytes) (adv st : Nat) (hf : rest.length < fuel) (hr : rest ≠ [])
    (hadv : adv = B.length + T.length) (hst : st = B.length) (hlen : adv + rest.length = len)
    (hB : AllNl B) (hT : PT T rest) (hΦ : Phi B T) :
    ∃ B' T' rest', B ++ T ++ rest = B' ++ T' ++ rest' ∧
      splitLoop len fuel rest adv st = (B'.length + T'.length, B'.length) ∧
      AllNl B' ∧ QT T' rest' ∧ Phi B' T' := by
  induction fuel generalizing B T rest adv st with
  | zero => omega
  | succ fuel ih =>
    rcases exists_line_split rest with hno | ⟨l, term, t, rfl, hl, hterm⟩
    · refine ⟨B, T ++ rest, [], by simp, ?_, hB, ⟨hT.head.append hno.headNotNl, fun h => absurd rfl h⟩,
        phi_tail B T rest hΦ hT.last hno hr⟩
      rw [splitLoop_noNl _ _ _ _ _ hno hlen, ← hlen, hadv, hst, List.length_append, Nat.add_assoc]
    · have hf' : t.length < fuel := by have := hterm.pos; simp only [List.length_append] at hf; omega
      have hlen' : adv + l.length + term.length + t.length = len := by
        rw [← hlen]; simp only [List.length_append]; omega
      by_cases hl0 : l = []
      · subst hl0
        obtain rfl : T = [] := hT.resolve_right fun h => hterm.not_headNotNl t h.2
        have hB' : AllNl (B ++ term) := hB.append hterm.allNl
        have hΦ' : Phi (B ++ term) [] := phi_blank B term hB hterm.allNl
        have hadv' : adv + term.length = (B ++ term).length + ([] : Bytes).length := by
          simp only [List.length_append, List.length_nil] at hadv ⊢; omega
        have hst' : st + term.length = (B ++ term).length := by rw [List.length_append, hst]
        rw [List.nil_append, splitLoop_blank _ _ _ _ _ _ hterm hlen]
        by_cases ht : t = []
        · subst ht
          rw [if_pos rfl, hadv', hst']
          exact ⟨B ++ term, [], [], by simp, rfl, hB', ⟨headNotNl_nil, fun h => absurd rfl h⟩, hΦ'⟩
        · rw [if_neg ht]
          obtain ⟨B', T', rest', h1, h2⟩ := ih (B ++ term) [] t _ _ hf' ht hadv' hst' hlen' hB' (.inl rfl) hΦ'
          exact ⟨B', T', rest', by simpa using h1, h2⟩
      · have hlines : TokLines (T ++ (l ++ term)) t := .snoc hT.head hl hl0 hterm
        have hΦ' : Phi B (T ++ (l ++ term)) := phi_line B T l term t hΦ hT.last hl hl0 hterm
        have hadv' : adv + l.length + term.length = B.length + (T ++ (l ++ term)).length := by
          simp only [List.length_append]; omega
        rw [splitLoop_line _ _ _ _ _ _ _ hl hl0 hterm hlen]
        by_cases hstop : t = [] ∨ isNl (t.headD 0) = true
        · rw [if_pos hstop, hadv', hst]
          exact ⟨B, T ++ (l ++ term), t, by simp, rfl, hB,
            ⟨hlines.head, fun ht => ⟨hlines, exists_term_of_headD (hstop.resolve_left ht)⟩⟩, hΦ'⟩
        · rw [if_neg hstop]
          obtain ⟨ht, hnl⟩ := not_or.1 hstop
          obtain ⟨B', T', rest', h1, h2⟩ := ih B (T ++ (l ++ term)) t _ _ hf' ht hadv' hst hlen' hB
            (.inr ⟨hlines, headNotNl_of_headD hnl⟩) hΦ'
          exact ⟨B', T', rest', by simpa using h1, h2⟩

theorem splitFunc_nil (e : Bool) : splitFunc [] e = (0, none) := rfl

theorem splitFunc_loop_end (data : Bytes) (e : Bool) (st : Nat) (hd : data ≠ [])
    (hloop : splitLoop data.length (data.length + 1) data 0 0 = (data.length, st)) :
    splitFunc data e = if e = true then (data.length, some (data.drop st)) else (0, none) := by
  have hl0 : (data.length == 0) = false := by simpa using hd
  unfold splitFunc
  simp only [hl0, hloop, beq_self_eq_true, Bool.true_and, Nat.lt_irrefl, if_false, Bool.false_eq_true,
    List.take_length]
  cases e <;> rfl

theorem getD_append_add (P x : Bytes) (i : Nat) (d : Byte) : (P ++ x).getD (P.length + i) d = x.getD i d := by
  rw [List.getD_eq_getElem?_getD, List.getD_eq_getElem?_getD, List.getElem?_append_right (Nat.le_add_right _ _),
    Nat.add_sub_cancel_left]

/-- the left side is `splitFunc`'s byte-by-byte test of the terminator its loop stopped in front of -/
theorem IsTerm.advance {nl rest : Bytes} (h : IsTerm nl rest) (P : Bytes) :
    (if (decide (P.length + 1 < (P ++ nl ++ rest).length) && (P ++ nl ++ rest).getD P.length 0 == 13 &&
        (P ++ nl ++ rest).getD (P.length + 1) 0 == 10) = true then P.length + 1 + 1 else P.length + 1) =
      (P ++ nl).length := by
  rw [List.append_assoc, getD_append_add P _ 1, show (P ++ (nl ++ rest)).getD P.length 0 = (nl ++ rest).getD 0 0 from
    getD_append_add P _ 0 0]
  rcases h with h | h | ⟨h, hr⟩ <;> subst h
  · simp
  · simp
  · cases rest with
    | nil => simp
    | cons d rest' =>
      have hd10 : d ≠ 10 := by simpa using hr
      simp [hd10]

theorem splitFunc_loop_term (data P nl rest : Bytes) (e : Bool) (st : Nat) (hd : data = P ++ nl ++ rest)
    (hnl : IsTerm nl rest) (hloop : splitLoop data.length (data.length + 1) data 0 0 = (P.length, st)) :
    splitFunc data e = ((P ++ nl).length, some ((P ++ nl).drop st)) := by
  have hpos := hnl.pos
  have hlen : data.length = P.length + nl.length + rest.length := by rw [hd]; simp only [List.length_append]
  have hl0 : (data.length == 0) = false := beq_eq_false_iff_ne.2 (by omega)
  have hne : (P.length == data.length) = false := beq_eq_false_iff_ne.2 (by omega)
  have hlt : P.length < data.length := by omega
  have hadv := hd ▸ hnl.advance P
  unfold splitFunc
  simp only [hl0, hloop, hne, hlt, Bool.false_and, Bool.false_eq_true, if_false, if_true, Nat.add_sub_cancel, hadv]
  rw [show data.take (P ++ nl).length = P ++ nl from hd ▸ List.take_left' rfl]

/-- everything `splitFunc` can do; `hloop`: what its loop returned (`advance`, `start`) -/
inductive SplitRes (data : Bytes) (e : Bool) : Prop
  | empty (hd : data = []) (hr : splitFunc data e = (0, none))
  /-- no complete event in the buffer and more may come: request more data -/
  | more (B T : Bytes) (he : e = false) (hd : data = B ++ T) (hB : AllNl B) (hT : HeadNotNl T)
      (hphi : Phi B T) (hr : splitFunc data e = (0, none))
  /-- skipped blank lines `B`, then the token: non-blank lines `T` and one more line end `nl` -/
  | tok (B T nl rest : Bytes) (hd : data = B ++ T ++ nl ++ rest) (hB : AllNl B) (hT : HeadNotNl T)
      (hl : LastIsNl T) (hcr : T.getLast? = some 13 → nl.head? ≠ some 10) (hnl : IsTerm nl rest)
      (hphi : Phi B T) (hr : splitFunc data e = ((B ++ T ++ nl).length, some (T ++ nl)))
      (hloop : splitLoop data.length (data.length + 1) data 0 0 = (B.length + T.length, B.length))
  /-- at the end of the input: all that is left after the blank lines -/
  | final (B T : Bytes) (he : e = true) (hd : data = B ++ T) (hne : data ≠ []) (hB : AllNl B) (hT : HeadNotNl T)
      (hphi : Phi B T) (hr : splitFunc data e = (data.length, some T))
      (hloop : splitLoop data.length (data.length + 1) data 0 0 = (data.length, B.length))

theorem splitFunc_cases (data : Bytes) (e : Bool) : SplitRes data e := by
  by_cases hd : data = []
  · exact .empty hd (hd ▸ splitFunc_nil e)
  obtain ⟨B, T, rest, hsplit, hloop, hB, ⟨hT, hrest⟩, hphi⟩ :=
    splitLoop_spec data.length (data.length + 1) [] [] data 0 0 (by omega) hd rfl rfl (Nat.zero_add _) nofun (.inl rfl)
      phi_nil
  rw [List.nil_append, List.nil_append] at hsplit
  by_cases hr : rest = []
  · subst hr
    rw [List.append_nil] at hsplit
    have hlen : B.length + T.length = data.length := by rw [hsplit, List.length_append]
    rw [hlen] at hloop
    have hres := splitFunc_loop_end data e B.length hd hloop
    cases e with
    | false => exact .more B T rfl hsplit hB hT hphi hres
    | true =>
      refine .final B T rfl hsplit hd hB hT hphi ?_ hloop
      rw [hres, if_pos rfl, show data.drop B.length = T from hsplit ▸ List.drop_left]
  · obtain ⟨hlines, nl, rest', rfl, hnl⟩ := hrest hr
    have hcr : T.getLast? = some 13 → nl.head? ≠ some 10 := fun h => by
      have := hlines.cr h
      rwa [head?_append_of_ne_nil _ _ hnl.ne_nil] at this
    have hd' : data = B ++ T ++ nl ++ rest' := by rw [hsplit, List.append_assoc (B ++ T)]
    refine .tok B T nl rest' hd' hB hT hlines.last hcr hnl hphi ?_ hloop
    rw [splitFunc_loop_term data (B ++ T) nl rest' e B.length hd' hnl (by rw [List.length_append]; exact hloop),
      List.append_assoc B, List.drop_left]

theorem sf_adv_le (d : Bytes) (e : Bool) : (splitFunc d e).1 ≤ d.length := by
  cases splitFunc_cases d e with
  | empty hd hr => simp [hr]
  | more B T he hd hB hT _ hr => simp [hr]
  | tok B T nl rest hd hB hT hl hcr hnl _ hr => rw [hr, hd]; simp
  | final B T he hd hne hB hT _ hr => simp [hr]

theorem splitFunc_none (d : Bytes) (e : Bool) (h : (splitFunc d e).2 = none) :
    splitFunc d e = (0, none) ∧ (d = [] ∨ e = false) := by
  cases splitFunc_cases d e with
  | empty hd hr => exact ⟨hr, .inl hd⟩
  | more B T he hd hB hT _ hr => exact ⟨hr, .inr he⟩
  | tok B T nl rest hd hB hT hl hcr hnl _ hr => simp [hr] at h
  | final B T he hd hne hB hT _ hr => simp [hr] at h

theorem HeadNotNl.ne_lf {l : Bytes} (h : HeadNotNl l) : l.head? ≠ some 10 :=
  fun h10 => Bool.noConfusion ((h 10 h10).symm.trans isNl_10)

theorem tok_shape (D : Bytes) (e : Bool) (adv : Nat) (tok : Bytes) (h : splitFunc D e = (adv, some tok)) :
    ∃ B, D = B ++ tok ++ D.drop adv ∧ AllNl B ∧ adv = B.length + tok.length ∧ 0 < adv ∧
      tok.head? ≠ some 10 ∧
      ((∃ T nl rest, tok = T ++ nl ∧ LastIsNl T ∧ (T.getLast? = some 13 → nl.head? ≠ some 10) ∧ IsTerm nl rest) ∨
       (e = true ∧ adv = D.length)) := by
  cases splitFunc_cases D e with
  | empty hd hr => rw [hr] at h; cases h
  | more B T he hd hB hT _ hr => rw [hr] at h; cases h
  | tok B T nl rest hd hB hT hl hcr hnl _ hr =>
    rw [hr] at h
    simp only [Prod.mk.injEq, Option.some.injEq] at h
    obtain ⟨h1, h2⟩ := h
    subst h1 h2
    have hdrop : D.drop (B ++ T ++ nl).length = rest := hd ▸ List.drop_left
    obtain ⟨b, hb1, hb2⟩ := hl
    have hTne : T ≠ [] := by intro h; simp [h] at hb1
    refine ⟨B, ?_, hB, by simp, ?_, ?_, .inl ⟨T, nl, rest, rfl, ⟨b, hb1, hb2⟩, hcr, hnl⟩⟩
    · rw [hdrop, hd]; simp
    · have := List.length_pos_iff.2 hTne; simp; omega
    · exact (hT.append_of_ne_nil hTne nl).ne_lf
  | final B T he hd hne hB hT _ hr =>
    rw [hr] at h
    simp only [Prod.mk.injEq, Option.some.injEq] at h
    obtain ⟨h1, h2⟩ := h
    subst h1 h2
    refine ⟨B, by simp [hd], hB, by simp [hd], List.length_pos_iff.2 hne, hT.ne_lf, .inr ⟨he, rfl⟩⟩

end GoSSE.Proofs
