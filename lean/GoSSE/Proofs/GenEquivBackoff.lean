import GoSSE.Gen.Backoff
import GoSSE.Model.Backoff
/-!
# The back-off controller of client.go as translated = the model of `Model/Backoff.lean`

`backoffController.reset / next`, `nextInterval`, `growInterval`. In the translated text `float64` is an abstract
carrier `φ` with the operations the Go code performs (`fo : GoRT.FloatI φ`, nothing assumed of them), the PRNG is the
list of its coming draws, the clock reading of a call is a parameter. The hand-written model is stated over three
abstract float computations (`Floats`: `grow`, `capped`, `jitter`): `floatsOf` spells them out in terms of `fo`, the
`Backoff`'s `Multiplier` / `Jitter` and the draw at hand, and with them one call of the translated `next` / `reset` is
one step of the model (`Ctl.next`, `Ctl.reset`) — for every float implementation, every configuration, every state.
-/
namespace GoSSE.GenEquiv
open GoSSE GoSSE.GoRT GoSSE.Model.Client

variable {φ : Type}

/-- the configuration as the model's controller sees it -/
def cfgOf (fo : FloatI φ) (b : Gen.Backoff φ) : Cfg :=
  { initialInterval := b.InitialInterval, maxInterval := b.MaxInterval, maxElapsedTime := b.MaxElapsedTime,
    maxRetries := b.MaxRetries, jitterOff := fo.eq b.Jitter (fo.lit (-1) 1) }

@[simp] theorem cfgOf_maxRetries (fo : FloatI φ) (b : Gen.Backoff φ) : (cfgOf fo b).maxRetries = b.MaxRetries := rfl
@[simp] theorem cfgOf_maxElapsedTime (fo : FloatI φ) (b : Gen.Backoff φ) : (cfgOf fo b).maxElapsedTime = b.MaxElapsedTime := rfl
@[simp] theorem cfgOf_maxInterval (fo : FloatI φ) (b : Gen.Backoff φ) : (cfgOf fo b).maxInterval = b.MaxInterval := rfl
@[simp] theorem cfgOf_initialInterval (fo : FloatI φ) (b : Gen.Backoff φ) : (cfgOf fo b).initialInterval = b.InitialInterval := rfl

/-- the model's three float computations, as the source text performs them with `fo` (the draw `d` is the next one of
the generator) -/
def floatsOf (fo : FloatI φ) (b : Gen.Backoff φ) (d : φ) : Floats :=
  { grow := fun cur => fo.toInt (fo.mul (fo.ofInt cur) b.Multiplier),
    capped := fun cur mx => fo.le (fo.div (fo.ofInt mx) b.Multiplier) (fo.ofInt cur),
    jitter := fun cur _ =>
      fo.toInt (fo.add (fo.sub (fo.ofInt cur) (fo.mul b.Jitter (fo.ofInt cur)))
        (fo.mul d (fo.add (fo.sub (fo.add (fo.ofInt cur) (fo.mul b.Jitter (fo.ofInt cur))) (fo.sub (fo.ofInt cur) (fo.mul b.Jitter (fo.ofInt cur)))) (fo.lit 1 1)))) }

def ctlOf (c : Gen.backoffController φ) : Ctl := { start := c.start, interval := c.interval, numRetries := c.numRetries }

/-- the translated controller with the model's fields put back -/
def withCtl (c : Gen.backoffController φ) (k : Ctl) (rng : List φ) : Gen.backoffController φ :=
  { c with start := k.start, interval := k.interval, numRetries := k.numRetries, rng := rng }

/-- the retry limit refuses: `next` returns before it touches anything -/
def refused (cfg : Cfg) (k : Ctl) : Bool := decide (cfg.maxRetries < 0) || (decide (cfg.maxRetries > 0) && k.numRetries == cfg.maxRetries)

theorem growInterval_eq (fo : FloatI φ) (fuel : Nat) (b : Gen.Backoff φ) (d : φ) (cur : Int) :
    Gen.growInterval fo fuel cur b.MaxInterval b.Multiplier = .ok (growInterval (floatsOf fo b d) cur b.MaxInterval) := by
  unfold Gen.growInterval growInterval floatsOf
  by_cases h : (decide (b.MaxInterval > 0) && fo.le (fo.div (fo.ofInt b.MaxInterval) b.Multiplier) (fo.ofInt cur)) = true
  · simp [h, pure, Except.pure]
  · simp [h, pure, Except.pure]

theorem nextInterval_eq (fo : FloatI φ) (fuel : Nat) (b : Gen.Backoff φ) (d : φ) (rest : List φ) (cur : Int) :
    Gen.nextInterval fo fuel b.Jitter (d :: rest) cur =
      .ok (nextInterval (cfgOf fo b) (floatsOf fo b d) cur 0, if (cfgOf fo b).jitterOff then d :: rest else rest) := by
  unfold Gen.nextInterval nextInterval cfgOf floatsOf
  by_cases h : fo.eq b.Jitter (fo.lit (-1) 1) = true
  · simp [h, pure, Except.pure]
  · simp [h, pure, Except.pure, rngFloat64, bind, Except.bind]

theorem nextInterval_eq_off (fo : FloatI φ) (fuel : Nat) (b : Gen.Backoff φ) (d : φ) (rng : List φ) (cur : Int)
    (hoff : (cfgOf fo b).jitterOff = true) :
    Gen.nextInterval fo fuel b.Jitter rng cur = .ok (nextInterval (cfgOf fo b) (floatsOf fo b d) cur 0, rng) := by
  unfold Gen.nextInterval nextInterval
  simp only [cfgOf] at hoff
  simp [hoff, cfgOf, pure, Except.pure]

theorem reset_eq (fo : FloatI φ) (fuel : Nat) (c : Gen.backoffController φ) (b : Gen.Backoff φ) (hb : c.b = some b)
    (newInterval now : Int) :
    Gen.backoffController_reset fo fuel c newInterval now =
      .ok (withCtl c (Ctl.reset (cfgOf fo b) (ctlOf c) newInterval now) c.rng) := by
  unfold Gen.backoffController_reset Ctl.reset withCtl cfgOf
  by_cases h : newInterval > 0
  · simp [h, pure, Except.pure]
  · simp [h, hb, derefPtr, pure, Except.pure, bind, Except.bind]

/-- what `next` returns for the model's answer -/
def nextRes (c : Gen.backoffController φ) (r : Ctl × Option Int) (rng : List φ) : Int × Bool × Gen.backoffController φ :=
  (r.2.getD 0, r.2.isSome, withCtl c r.1 rng)

/-- one `next`, given what `nextInterval` (`ni`, and the generator afterwards) and `growInterval` (`gi`) answer -/
def stepPure (b : Gen.Backoff φ) (st iv nr now ni gi : Int) : Ctl × Option Int :=
  if b.MaxRetries < 0 ∨ (0 < b.MaxRetries ∧ nr = b.MaxRetries) then ({ start := st, interval := iv, numRetries := nr }, none)
  else if 0 < b.MaxElapsedTime ∧ b.MaxElapsedTime < now - st + ni then ({ start := st, interval := gi, numRetries := nr + 1 }, none)
  else ({ start := st, interval := gi, numRetries := nr + 1 }, some ni)

theorem model_next_core (cfg : Cfg) (fl : Floats) (b : Gen.Backoff φ) (st iv nr now ni gi : Int)
    (h1 : cfg.maxRetries = b.MaxRetries) (h2 : cfg.maxElapsedTime = b.MaxElapsedTime) (h3 : cfg.maxInterval = b.MaxInterval)
    (hN : nextInterval cfg fl iv 0 = ni) (hG : growInterval fl iv b.MaxInterval = gi) :
    Ctl.next cfg fl { start := st, interval := iv, numRetries := nr } now 0 = stepPure b st iv nr now ni gi := by
  unfold Ctl.next stepPure
  simp only [h1, h2, h3, hN, hG]
  by_cases hr : b.MaxRetries < 0 ∨ (0 < b.MaxRetries ∧ nr = b.MaxRetries)
  · simp [hr]
  · by_cases he : 0 < b.MaxElapsedTime ∧ b.MaxElapsedTime < now - st + ni <;> simp [hr, he]

/-- Go's short-circuit `a && b` and `a || b` as translated: a conditional that evaluates `b` only when needed -/
theorem goAnd_ok (q : Prop) [Decidable q] (x : Bool) :
    (if q then Except.ok x else Except.ok false : GoM Bool) = .ok (decide q && x) := by
  by_cases h : q <;> simp [h]

theorem goOr_ok (p : Prop) [Decidable p] (y : Bool) :
    (if p then Except.ok true else Except.ok y : GoM Bool) = .ok (decide p || y) := by
  by_cases h : p <;> simp [h]

theorem gen_next_core (fo : FloatI φ) (fuel : Nat) (b : Gen.Backoff φ) (rng rngJ : List φ) (st iv nr now ni gi : Int)
    (hN : Gen.nextInterval fo fuel b.Jitter rng iv = .ok (ni, rngJ))
    (hG : Gen.growInterval fo fuel iv b.MaxInterval b.Multiplier = .ok gi) :
    Gen.backoffController_next fo fuel { start := st, rng := rng, b := some b, interval := iv, numRetries := nr } now =
      .ok (nextRes { start := st, rng := rng, b := some b, interval := iv, numRetries := nr } (stepPure b st iv nr now ni gi)
        (if b.MaxRetries < 0 ∨ (0 < b.MaxRetries ∧ nr = b.MaxRetries) then rng else rngJ)) := by
  unfold Gen.backoffController_next stepPure nextRes
  simp only [derefPtr, bind, Except.bind, pure, Except.pure, hN, hG, goAnd_ok, goOr_ok]
  by_cases hr : b.MaxRetries < 0 ∨ (0 < b.MaxRetries ∧ nr = b.MaxRetries)
  · simp [hr, withCtl]
  · by_cases he : 0 < b.MaxElapsedTime ∧ b.MaxElapsedTime < now - st + ni <;> simp [hr, he, withCtl]

theorem refused_iff (fo : FloatI φ) (b : Gen.Backoff φ) (k : Ctl) :
    refused (cfgOf fo b) k = true ↔ (b.MaxRetries < 0 ∨ (0 < b.MaxRetries ∧ k.numRetries = b.MaxRetries)) := by
  show (decide (b.MaxRetries < 0) || (decide (b.MaxRetries > 0) && k.numRetries == b.MaxRetries)) = true ↔ _
  simp

/-- the draw is consumed exactly when the retry limit does not refuse and jitter is on -/
theorem next_eq (fo : FloatI φ) (fuel : Nat) (c : Gen.backoffController φ) (b : Gen.Backoff φ) (hb : c.b = some b)
    (d : φ) (rest : List φ) (hr : c.rng = d :: rest) (now : Int) :
    Gen.backoffController_next fo fuel c now =
      .ok (nextRes c (Ctl.next (cfgOf fo b) (floatsOf fo b d) (ctlOf c) now 0)
        (if refused (cfgOf fo b) (ctlOf c) || (cfgOf fo b).jitterOff then c.rng else rest)) := by
  cases c with
  | mk st rng cb iv nr =>
  simp only at hb hr
  subst hb hr
  rw [gen_next_core fo fuel b (d :: rest) _ st iv nr now _ _ (nextInterval_eq fo fuel b d rest iv) (growInterval_eq fo fuel b d iv)]
  dsimp only [ctlOf]
  rw [model_next_core (cfgOf fo b) (floatsOf fo b d) b st iv nr now _ _ rfl rfl rfl rfl rfl]
  congr 2
  have hrf := refused_iff fo b { start := st, interval := iv, numRetries := nr }
  by_cases h : refused (cfgOf fo b) { start := st, interval := iv, numRetries := nr } = true
  · rw [if_pos (hrf.1 h)]; simp [h]
  · rw [if_neg (mt hrf.2 h)]; simp [h]

/-- jitter off (`Jitter == -1`): no draw is needed, whatever the generator holds -/
theorem next_eq_off (fo : FloatI φ) (fuel : Nat) (c : Gen.backoffController φ) (b : Gen.Backoff φ) (hb : c.b = some b)
    (d : φ) (hoff : (cfgOf fo b).jitterOff = true) (now : Int) :
    Gen.backoffController_next fo fuel c now =
      .ok (nextRes c (Ctl.next (cfgOf fo b) (floatsOf fo b d) (ctlOf c) now 0) c.rng) := by
  cases c with
  | mk st rng cb iv nr =>
  simp only at hb
  subst hb
  rw [gen_next_core fo fuel b rng _ st iv nr now _ _ (nextInterval_eq_off fo fuel b d rng iv hoff) (growInterval_eq fo fuel b d iv)]
  dsimp only [ctlOf]
  rw [model_next_core (cfgOf fo b) (floatsOf fo b d) b st iv nr now _ _ rfl rfl rfl rfl rfl]
  simp

end GoSSE.GenEquiv
