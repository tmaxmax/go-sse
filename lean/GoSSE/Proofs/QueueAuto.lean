import GoSSE.Proofs.QueueEach
import GoSSE.Proofs.QueueNum
/-!
Automatic IDs: the stored IDs are consecutive decimals (`Consec`), and `findIDInQueue`'s
arithmetic branch against `Spec.afterAuto`.
-/
namespace GoSSE.Proofs
open GoSSE GoSSE.Spec GoSSE.Model

/-- the IDs of `l` are the consecutive decimal numerals ending just below `cur` -/
def Consec (l : List Entry) (cur : Nat) : Prop :=
  l.length ≤ cur ∧ ∀ j (h : j < l.length), l[j].id = some (decimal (cur - l.length + j))

theorem consec_nil (cur : Nat) : Consec [] cur := ⟨by simp, by intro j h; simp at h⟩

theorem consec_snoc {l : List Entry} {cur : Nat} (h : Consec l cur) (e : Entry) (he : e.id = some (decimal cur)) :
    Consec (l ++ [e]) (cur + 1) := by
  obtain ⟨hle, hid⟩ := h
  refine ⟨by simp; omega, fun j hj => ?_⟩
  simp only [List.length_append, List.length_singleton] at hj ⊢
  by_cases hlt : j < l.length
  · rw [List.getElem_append_left hlt, hid j hlt]
    congr 2; omega
  · rw [List.getElem_append_right (by omega), List.getElem_singleton, he]
    congr 2; omega

theorem consec_drop {l : List Entry} {cur : Nat} (h : Consec l cur) (m : Nat) : Consec (l.drop m) cur := by
  obtain ⟨hle, hid⟩ := h
  constructor
  · simp; omega
  · intro j hj
    simp only [List.length_drop] at hj
    simp only [List.getElem_drop, List.length_drop]
    rw [hid _ (by omega)]
    congr 2; omega

theorem consec_put {l : List Entry} {cur : Nat} (h : Consec l cur) (e : Entry) (he : e.id = some (decimal cur))
    (n : Nat) : Consec (takeLast n (l ++ [e])) (cur + 1) :=
  consec_drop (consec_snoc h e he) _

theorem filter_consec (l : List Entry) (base n : Nat)
    (h : ∀ j (hj : j < l.length), (idNum l[j].id).getD 0 = base + j) :
    l.filter (fun e => decide (n < (idNum e.id).getD 0)) = l.drop (n + 1 - base) := by
  induction l generalizing base with
  | nil => simp
  | cons e t ih =>
    have h0 := h 0 (by simp)
    simp only [List.getElem_cons_zero, Nat.add_zero] at h0
    have ht := ih (base + 1) (by
      intro j hj
      have := h (j + 1) (by simpa using hj)
      simp only [List.getElem_cons_succ] at this
      omega)
    simp only [List.filter_cons, h0, ht]
    by_cases hn : n < base
    · rw [if_pos (decide_eq_true hn), show n + 1 - (base + 1) = 0 by omega, show n + 1 - base = 0 by omega]; rfl
    · rw [if_neg (by simpa using hn), show n + 1 - base = (n + 1 - (base + 1)) + 1 by omega, List.drop_succ_cons]

theorem consec_num {l : List Entry} {cur : Nat} (h : Consec l cur) (hcur : cur ≤ maxUint64 + 1)
    (j : Nat) (hj : j < l.length) : (idNum l[j].id).getD 0 = cur - l.length + j := by
  rw [h.2 j hj]
  simp only [idNum, Option.bind_some]
  rw [decimal?_decimal _ (by have := h.1; omega)]
  rfl

theorem afterAuto_consec {l : List Entry} {cur : Nat} (h : Consec l cur) (hcur : cur ≤ maxUint64 + 1)
    (id : EventID) (n : Nat) (hn : idNum id = some n) :
    afterAuto id l = l.drop (n + 1 - (cur - l.length)) := by
  simp only [afterAuto, hn]
  exact filter_consec l _ n (consec_num h hcur)

theorem idNum_parse (id : EventID) :
    idNum id = if (parseUint (id.getD [])).2 then none else some (parseUint (id.getD [])).1 := by
  cases id with
  | none => simp [idNum, parseUint]
  | some s => simp only [idNum, Option.bind_some, Option.getD_some]; exact (parseUint_decimal? s).symm

theorem consec_head {q : Queue} (h : WF q) {cur : Nat} (hc : Consec (abs q) cur) (hpos : 0 < q.count) :
    ∃ e, q.buf[q.head]? = some (some e) ∧ e.id = some (decimal (cur - q.count)) := by
  obtain ⟨e, hb, ha⟩ := abs_getElem_zero h hpos
  have h0 : 0 < (abs q).length := abs_length h ▸ hpos
  have hid := hc.2 0 h0
  rw [Option.some.inj ((List.getElem?_eq_getElem h0).symm.trans ha), abs_length h] at hid
  exact ⟨e, hb, hid⟩

/-- the index arithmetic of `findIDInQueue`'s automatic branch is `idx` -/
theorem idx_cast (q : Queue) (k : Nat) :
    (if (k : Int) + q.head ≥ q.buf.length then (k : Int) + q.head - q.buf.length else (k : Int) + q.head) =
      ((idx q k : Nat) : Int) := by
  have := idx_spec q k
  split <;> omega

/-- its `delta + head + 1`, with `delta = -1` below the first number, counts from one past the first number -/
theorem auto_pos (n first head : Nat) :
    (if n ≥ first then ((n - first : Nat) : Int) else -1) + (head : Int) + 1 = ((n + 1 - first : Nat) : Int) + head := by
  split <;> omega

/-- `findIDInQueue` with automatic IDs: −1 when nothing is numbered above the presented
number, otherwise the slot of the first entry numbered above it. -/
theorem findID_auto {q : Queue} (h : WF q) {cur : Nat} (hc : Consec (abs q) cur) (hcur : cur ≤ maxUint64 + 1)
    (id : EventID) :
    ∃ r, findIDInQueue q id true = .ok r ∧
      ((r = -1 ∧ afterAuto id (abs q) = []) ∨
       (∃ k, k < q.count ∧ r = (idx q k : Nat) ∧ afterAuto id (abs q) = (abs q).drop k)) := by
  unfold findIDInQueue
  by_cases hcz : q.count = 0
  · simp only [hcz, if_true]
    refine ⟨-1, rfl, Or.inl ⟨rfl, ?_⟩⟩
    rw [abs_nil_of_count hcz]
    simp only [afterAuto]; split <;> simp
  · simp only [hcz, if_false, if_true]
    have hpos : 0 < q.count := by omega
    have hnum := idNum_parse id
    by_cases hp : (parseUint (id.getD [])).2 = true
    · simp only [hp, if_true] at hnum ⊢
      exact ⟨-1, rfl, Or.inl ⟨rfl, by simp [afterAuto, hnum]⟩⟩
    · simp only [hp, if_false, Bool.false_eq_true] at hnum ⊢
      obtain ⟨e0, hb, hid0⟩ := consec_head h hc hpos
      have hle : q.count ≤ cur := abs_length h ▸ hc.1
      have hafter := afterAuto_consec hc hcur id _ hnum
      rw [abs_length h] at hafter
      simp only [hb, slotID, hid0, Option.getD_some]
      rw [parseUint_decimal _ (by omega)]
      simp only
      generalize (parseUint (id.getD [])).1 = n at *
      by_cases hnew : n ≥ cur - q.count ∧ n - (cur - q.count) ≥ q.count - 1
      · simp only [hnew, and_self, if_true]
        refine ⟨-1, rfl, Or.inl ⟨rfl, ?_⟩⟩
        rw [hafter, List.drop_of_length_le]; rw [abs_length h]; omega
      · simp only [hnew, if_false]
        rw [auto_pos, idx_cast]
        exact ⟨_, rfl, Or.inr ⟨_, by omega, rfl, hafter⟩⟩

end GoSSE.Proofs
