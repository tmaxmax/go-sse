import GoSSE.Proofs.MessageLines
import GoSSE.Proofs.MessageWrite
import GoSSE.Proofs.ParserLine
/-!
Helper lemmas for C02: the wire form of well-formed messages is a sequence of LF-terminated,
CR/LF-free lines; the WHATWG splitter recovers exactly those lines; the WHATWG interpreter,
run over them, yields the expected events.
-/
namespace GoSSE.Proofs
open GoSSE GoSSE.Spec GoSSE.Model

/-- what every message built through the public API satisfies -/
structure WF (m : Message) : Prop where
  chunks : ∀ c ∈ m.chunks, NlFree c.content
  id : m.id.set = true → NlFree m.id.value
  typ : m.typ.set = true → NlFree m.typ.value
  retry : RetryOK m

def dataOf (cs : List Chunk) : List Bytes := (cs.filter fun c => !c.isComment).map (·.content)

theorem dataOf_append (a b : List Chunk) : dataOf (a ++ b) = dataOf a ++ dataOf b := by
  simp [dataOf]

theorem dataOf_map (ls : List Bytes) (ic : Bool) :
    dataOf (ls.map fun l => (⟨l, ic⟩ : Chunk)) = if ic then [] else ls := by
  cases ic <;> simp [dataOf, List.filter_map, Function.comp_def]

/-- the client-visible description of a message value -/
def builtOf (m : Message) : Built :=
  { id := if m.id.set then some m.id.value else none,
    typ := if m.typ.set then some m.typ.value else none,
    dataLines := dataOf m.chunks }

def chunkLine (c : Chunk) : Bytes := (if c.isComment then fieldBytesComment else fieldBytesData) ++ c.content

/-- the field lines of the wire form (without terminators and without the closing blank line) -/
def lines (m : Message) : List Bytes :=
  (if m.id.set then [fieldBytesID ++ m.id.value] else []) ++
  (if m.typ.set then [fieldBytesEvent ++ m.typ.value] else []) ++
  (if m.millis ≤ 0 then [] else [fieldBytesRetry ++ (retryDigits m.millis.toNat).getD []]) ++
  m.chunks.map chunkLine

/-- all lines of the wire form -/
def msgLines (m : Message) : List Bytes := if (lines m).isEmpty then [] else lines m ++ [[]]

def term (ls : List Bytes) : Bytes := ls.flatMap (· ++ [10])

theorem term_append (a b : List Bytes) : term (a ++ b) = term a ++ term b := by simp [term]

theorem length_le_term (ls : List Bytes) : ls.length ≤ (term ls).length := by
  induction ls with
  | nil => exact Nat.le_refl _
  | cons l ls ih => simp [term] at ih ⊢; omega

theorem lines_eq (m : Message) : lines m = (fieldsOf m).map fun p => p.1 ++ p.2 := by
  simp only [lines, fieldsOf, List.map_append, apply_ite (List.map _), List.map_cons, List.map_nil, List.map_map]
  rfl

theorem flatten_fieldWrites (ps : List (Bytes × Bytes)) :
    (ps.flatMap fun p => fieldWrites p.1 p.2).flatten = term (ps.map fun p => p.1 ++ p.2) := by
  induction ps with
  | nil => rfl
  | cons p ps ih =>
    simp only [List.flatMap_cons, List.flatten_append, ih, List.map_cons, term]
    simp [fieldWrites, newline]

theorem bodyWrites_flatten (m : Message) : m.bodyWrites.flatten = term (lines m) := by
  rw [bodyWrites_eq, lines_eq, flatten_fieldWrites]

theorem bodyWrites_isEmpty (m : Message) : m.bodyWrites.isEmpty = (lines m).isEmpty := by
  rw [bodyWrites_eq, lines_eq]
  cases fieldsOf m <;> rfl

theorem isEmpty_append {α : Type} (a b : List α) : (a ++ b).isEmpty = (a.isEmpty && b.isEmpty) := by
  cases a <;> rfl

theorem lines_isEmpty (m : Message) : (lines m).isEmpty = !hasField m := by
  have one : ∀ (c : Bool) (x : Bytes), (if c = true then [x] else []).isEmpty = !c := by intro c x; cases c <;> rfl
  have hr : ∀ x : Bytes, (if m.millis ≤ 0 then [] else [x]).isEmpty = !decide (m.millis > 0) := by
    intro x
    by_cases h : m.millis ≤ 0
    · rw [if_pos h, decide_eq_false (by omega)]; rfl
    · rw [if_neg h, decide_eq_true (by omega)]; rfl
  simp only [lines, hasField, isEmpty_append, one, hr, List.isEmpty_map, Bool.not_or, Bool.not_not]

theorem encode_eq (m : Message) : m.encode = term (msgLines m) := by
  unfold Message.encode Message.writes msgLines
  rw [bodyWrites_isEmpty]
  by_cases h : (lines m).isEmpty = true
  · simp [h, term]
  · simp only [h, Bool.false_eq_true, if_false, List.flatten_append, bodyWrites_flatten, term_append]
    simp [term, newline]

theorem splitLines_term (ls : List Bytes) (rest : Bytes) (h : ∀ l ∈ ls, NlFree l) :
    splitLines (term ls ++ rest) [] false =
      (ls ++ (splitLines rest [] false).1, (splitLines rest [] false).2) := by
  induction ls with
  | nil => simp [term]
  | cons l ls ih =>
    have hl := h l (List.mem_cons_self)
    have e : term (l :: ls) ++ rest = l ++ [10] ++ (term ls ++ rest) := by simp [term]
    rw [e, splitLines_terminated l [10] _ [] hl (.inl rfl), ih (fun x hx => h x (List.mem_cons_of_mem _ hx))]
    rfl

theorem digits_nlFree (ds : Bytes) (h : ds.all isDigit = true) : NlFree ds := by
  intro b hb
  have := List.all_eq_true.1 h b hb
  simp only [isDigit, Bool.and_eq_true, decide_eq_true_eq] at this
  simp only [isNl, Bool.or_eq_false_iff, beq_eq_false_iff_ne]
  constructor
  · intro h'; subst h'; exact absurd this.1 (by decide)
  · intro h'; subst h'; exact absurd this.1 (by decide)

theorem retryDigits_nlFree (n : Nat) : NlFree ((retryDigits n).getD []) := by
  cases h : retryDigits n with
  | none => simp [nlFree_nil]
  | some ds =>
    rw [retryDigits_eq, accLoop_eq] at h
    split at h
    · cases h; exact digits_nlFree _ (digitsLoop_digits _ _ _ rfl)
    · cases h

theorem formatUint_nlFree (n : Nat) : NlFree (formatUint n) := by
  apply digits_nlFree
  unfold formatUint
  split
  · decide
  · exact digitsLoop_digits _ _ _ (by simp)

theorem fieldName_nlFree : ∀ n ∈ fieldNames, NlFree n := by
  unfold NlFree; decide

theorem lines_nlFree (m : Message) (hm : WF m) : ∀ l ∈ lines m, NlFree l := by
  intro l hl
  rw [lines_eq] at hl
  obtain ⟨p, hp, rfl⟩ := List.mem_map.1 hl
  refine nlFree_append.2 ⟨fieldName_nlFree _ (fieldsOf_name hp), ?_⟩
  rcases mem_fieldsOf.1 hp with ⟨h, rfl⟩ | ⟨h, rfl⟩ | ⟨_, rfl⟩ | ⟨c, hc, rfl⟩
  · exact hm.id h
  · exact hm.typ h
  · exact retryDigits_nlFree _
  · exact hm.chunks c hc

theorem lines_nonempty (m : Message) : ∀ l ∈ lines m, l ≠ [] := by
  intro l hl
  rw [lines_eq] at hl
  obtain ⟨p, hp, rfl⟩ := List.mem_map.1 hl
  intro h
  exact fieldName_ne_nil p.1 (fieldsOf_name hp) (List.append_eq_nil_iff.1 h).1

theorem msgLines_nlFree (m : Message) (hm : WF m) : ∀ l ∈ msgLines m, NlFree l := by
  intro l hl
  unfold msgLines at hl
  split at hl
  · simp at hl
  · simp only [List.mem_append, List.mem_singleton] at hl
    rcases hl with hl | hl
    · exact lines_nlFree m hm l hl
    · subst hl; exact nlFree_nil

theorem flatMap_encode (ms : List Message) : ms.flatMap Message.encode = term (ms.flatMap msgLines) := by
  induction ms with
  | nil => simp [term]
  | cons m ms ih => simp only [List.flatMap_cons, ih, encode_eq, term_append]

theorem splitLines_flatMap_encode (ms : List Message) (h : ∀ m ∈ ms, WF m) :
    splitLines (ms.flatMap Message.encode) [] false = (ms.flatMap msgLines, []) := by
  rw [flatMap_encode]
  have := splitLines_term (ms.flatMap msgLines) [] (by
    intro l hl
    simp only [List.mem_flatMap] at hl
    obtain ⟨m, hm, hl⟩ := hl
    exact msgLines_nlFree m (h m hm) l hl)
  simpa [splitLines] using this

theorem fieldName_head : ∀ n ∈ fieldNames, ∃ b t, n = b :: t ∧ b ≠ 0xEF := by
  intro n hn
  have h : ∀ n ∈ fieldNames, (n.head?.any (· != 0xEF)) = true := by decide
  have := h n hn
  cases n with
  | nil => simp at this
  | cons b t => exact ⟨b, t, rfl, by simpa using this⟩

/-- an encoding starts with a field name, never with a BOM -/
theorem bom_encode_append (m : Message) (rest : Bytes) (h : bom.isPrefixOf rest = false) :
    bom.isPrefixOf (m.encode ++ rest) = false := by
  rw [encode_eq, msgLines, lines_eq]
  cases hf : fieldsOf m with
  | nil => exact h
  | cons p ps =>
    obtain ⟨b, t, hb, hne⟩ := fieldName_head p.1 (fieldsOf_name (by rw [hf]; exact List.mem_cons_self))
    have : ((0xEF : UInt8) == b) = false := by simp; exact fun h' => hne h'.symm
    simp [term, hb, bom, List.isPrefixOf, this]

theorem bom_flatMap_encode (ms : List Message) : bom.isPrefixOf (ms.flatMap Message.encode) = false := by
  induction ms with
  | nil => rfl
  | cons m ms ih => exact bom_encode_append m _ ih

theorem stripBOM_flatMap_encode (ms : List Message) : stripBOM (ms.flatMap Message.encode) = ms.flatMap Message.encode := by
  simp [stripBOM, bom_flatMap_encode]

theorem interp_append (mode : Mode) (conn : Bool) (st : IState) (a b : List Bytes) :
    interp mode conn st (a ++ b) =
      ((interp mode conn (interp mode conn st a).1 b).1,
       (interp mode conn st a).2 ++ (interp mode conn (interp mode conn st a).1 b).2) := by
  induction a generalizing st with
  | nil => simp [interp]
  | cons l ls ih => simp only [List.cons_append, interp, ih, List.append_assoc]

theorem interp_one (mode : Mode) (conn : Bool) (st : IState) (l : Bytes) :
    interp mode conn st [l] = procLine mode conn st l := by
  simp [interp]

theorem procLine_nonblank_silent (mode : Mode) (st : IState) (l : Bytes) (h : l ≠ []) :
    (procLine mode false st l).2 = [] := by
  have hl : ¬ l.isEmpty = true := by cases l; exact absurd rfl h; simp
  unfold procLine
  rw [if_neg hl]
  cases parseLine l with
  | none => rfl
  | some p =>
    obtain ⟨name, v⟩ := p
    simp only [apply_ite Prod.snd, Bool.false_eq_true, if_false]
    cases retryVal v <;> simp only [ite_self]

theorem interp_nonblank_silent (mode : Mode) (st : IState) (ls : List Bytes) (h : ∀ l ∈ ls, l ≠ []) :
    (interp mode false st ls).2 = [] := by
  induction ls generalizing st with
  | nil => rfl
  | cons l ls ih =>
    simp only [interp]
    rw [procLine_nonblank_silent mode st l (h l (by simp)), ih _ (fun x hx => h x (by simp [hx]))]
    rfl

theorem parseLine_field (name v : Bytes) (hc : 58 ∉ name) :
    parseLine (name ++ 58 :: 32 :: v) = if name.isEmpty then none else some (name, v) := by
  have h := (findIdx_span_append name (58 :: 32 :: v) hc).2
  rw [show (58 :: 32 :: v : Bytes).span (· != 58) = ([], 58 :: 32 :: v) from rfl, List.append_nil] at h
  rw [parseLine, h]; rfl

theorem procLine_id (mode : Mode) (st : IState) (v : Bytes) :
    procLine mode false st (fieldBytesID ++ v) =
      if v.contains 0 then (st, []) else ({ st with lastID := v, dirty := true }, []) := by
  unfold procLine
  rw [show parseLine (fieldBytesID ++ v) = some (fId, v) from parseLine_field fId v (by decide)]
  rfl

theorem procLine_event (mode : Mode) (st : IState) (v : Bytes) :
    procLine mode false st (fieldBytesEvent ++ v) = ({ st with typ := v, dirty := true }, []) := by
  unfold procLine
  rw [show parseLine (fieldBytesEvent ++ v) = some (fEvent, v) from parseLine_field fEvent v (by decide)]
  rfl

theorem procLine_data (mode : Mode) (st : IState) (v : Bytes) :
    procLine mode false st (fieldBytesData ++ v) = ({ st with data := st.data ++ v ++ [10], dirty := true }, []) := by
  unfold procLine
  rw [show parseLine (fieldBytesData ++ v) = some (fData, v) from parseLine_field fData v (by decide)]
  rfl

theorem procLine_comment (mode : Mode) (st : IState) (v : Bytes) :
    procLine mode false st (fieldBytesComment ++ v) = (st, []) := by
  unfold procLine
  rw [show parseLine (fieldBytesComment ++ v) = none from parseLine_field [] v (by decide)]
  rfl

theorem procLine_retry (mode : Mode) (st : IState) (v : Bytes) :
    procLine mode false st (fieldBytesRetry ++ v) = (st, []) := by
  unfold procLine
  rw [show parseLine (fieldBytesRetry ++ v) = some (fRetry, v) from parseLine_field fRetry v (by decide)]
  dsimp only
  cases retryVal v <;> rfl

theorem interp_chunks (mode : Mode) (st : IState) (cs : List Chunk) :
    interp mode false st (cs.map chunkLine) =
      ({ st with data := st.data ++ term (dataOf cs), dirty := st.dirty || !(dataOf cs).isEmpty }, []) := by
  induction cs generalizing st with
  | nil => simp [interp, dataOf, term]
  | cons c cs ih =>
    simp only [List.map_cons, interp]
    by_cases hc : c.isComment = true
    · simp only [chunkLine, hc, if_true, procLine_comment, ih, List.nil_append]
      simp [dataOf, hc]
    · simp only [chunkLine, hc, Bool.false_eq_true, if_false, procLine_data, ih, List.nil_append]
      simp [dataOf, hc, term, List.append_assoc]

theorem term_dropLast (ls : List Bytes) : (term ls).dropLast = joinLF ls := by
  induction ls with
  | nil => simp [term, joinLF]
  | cons l ls ih =>
    cases ls with
    | nil => simp [term, joinLF]
    | cons l2 ls2 =>
      have hne : term (l2 :: ls2) ≠ [] := by simp [term]
      have : term (l :: l2 :: ls2) = (l ++ [10]) ++ term (l2 :: ls2) := by simp [term]
      rw [this, List.dropLast_append_of_ne_nil hne, ih]
      simp [joinLF]

theorem term_isEmpty (ls : List Bytes) : (term ls).isEmpty = ls.isEmpty := by
  cases ls <;> simp [term]

def clean (id : Bytes) : IState := { lastID := id }

/-- the interpreter's state after the field lines of a message that `b` describes, from a clean state -/
def stateOf (id₀ : Bytes) (b : Built) : IState :=
  { lastID := b.effID.getD id₀, typ := b.typ.getD [], data := term b.dataLines,
    dirty := b.effID.isSome || b.typ.isSome || !b.dataLines.isEmpty }

theorem interp_lines (mode : Mode) (id₀ : Bytes) (m : Message) :
    interp mode false (clean id₀) (lines m) = (stateOf id₀ (builtOf m), []) := by
  have hid : ∀ st : IState, interp mode false st (if m.id.set then [fieldBytesID ++ m.id.value] else []) =
      ({ st with lastID := (builtOf m).effID.getD st.lastID, dirty := st.dirty || (builtOf m).effID.isSome }, []) := by
    intro st
    cases h : m.id.set
    · simp [builtOf, Built.effID, h, interp]
    · rw [if_pos rfl, interp_one, procLine_id]
      by_cases h0 : (0 : Byte) ∈ m.id.value <;> simp [builtOf, Built.effID, h, h0]
  have hty : ∀ st : IState, interp mode false st (if m.typ.set then [fieldBytesEvent ++ m.typ.value] else []) =
      ({ st with typ := (builtOf m).typ.getD st.typ, dirty := st.dirty || (builtOf m).typ.isSome }, []) := by
    intro st
    cases h : m.typ.set
    · simp [builtOf, h, interp]
    · rw [if_pos rfl, interp_one, procLine_event]; simp [builtOf, h]
  have hre : ∀ (st : IState) (v : Bytes), interp mode false st (if m.millis ≤ 0 then [] else [fieldBytesRetry ++ v]) = (st, []) := by
    intro st v
    split
    · rfl
    · rw [interp_one, procLine_retry]
  -- the four blocks of `lines m` one after the other, each by its equation above
  simp only [lines, interp_append, hid, hty, hre, interp_chunks, List.append_nil]
  -- started from `clean id₀`, the updates they leave are the fields of `stateOf`
  simp only [clean, stateOf, Bool.false_or, List.nil_append]
  rfl

theorem dispatchable_stateOf (mode : Mode) (id₀ : Bytes) (b : Built) :
    dispatchable mode (stateOf id₀ b) = b.dispatches mode := by
  cases mode
  · simp only [dispatchable, stateOf, Built.dispatches, Bool.or_comm, Bool.or_assoc]
  · simp only [dispatchable, stateOf, Built.dispatches, term_isEmpty]

theorem procLine_blank_stateOf (mode : Mode) (id₀ : Bytes) (b : Built) :
    procLine mode false (stateOf id₀ b) [] = (clean (b.effID.getD id₀), expected mode id₀ [b]) := by
  have hev : mkEvent (stateOf id₀ b) = { lastEventID := b.effID.getD id₀, type := b.typ.getD [], data := joinLF b.dataLines } := by
    simp only [mkEvent, stateOf, term_dropLast]
  simp only [procLine, List.isEmpty_nil, if_true, dispatchable_stateOf, hev, expected, List.append_nil]
  split <;> rfl

theorem interp_msgLines (mode : Mode) (id₀ : Bytes) (m : Message) :
    interp mode false (clean id₀) (msgLines m) =
      (clean ((builtOf m).effID.getD id₀), expected mode id₀ [builtOf m]) := by
  have hl := interp_lines mode id₀ m
  unfold msgLines
  split
  · -- nothing on the wire: the blank line would have found nothing to dispatch
    rename_i he
    rw [List.isEmpty_iff.1 he] at hl
    have hs : clean id₀ = stateOf id₀ (builtOf m) := congrArg Prod.fst hl
    rw [← procLine_blank_stateOf, ← hs]
    cases mode <;> rfl
  · rw [interp_append, hl, interp_one, procLine_blank_stateOf]; rfl

theorem expected_cons (mode : Mode) (id₀ : Bytes) (b : Built) (bs : List Built) :
    expected mode id₀ (b :: bs) = expected mode id₀ [b] ++ expected mode (b.effID.getD id₀) bs := by
  simp [expected]

theorem interp_flatMap_msgLines (mode : Mode) (id₀ : Bytes) (ms : List Message) :
    ∃ id', interp mode false (clean id₀) (ms.flatMap msgLines) = (clean id', expected mode id₀ (ms.map builtOf)) := by
  induction ms generalizing id₀ with
  | nil => exact ⟨id₀, by simp [interp, expected]⟩
  | cons m ms ih =>
    obtain ⟨id', h⟩ := ih ((builtOf m).effID.getD id₀)
    refine ⟨id', ?_⟩
    simp only [List.flatMap_cons, interp_append, interp_msgLines, h, List.map_cons]
    simp [expected]

/-- message level form of C02's headline -/
theorem run_flatMap_encode (mode : Mode) (id₀ : Bytes) (ms : List Message) (h : ∀ m ∈ ms, WF m) :
    Spec.run mode false id₀ (ms.flatMap Message.encode) .eof = (expected mode id₀ (ms.map builtOf), .clean) := by
  unfold Spec.run
  rw [stripBOM_flatMap_encode, splitLines_flatMap_encode ms h]
  obtain ⟨id', hi⟩ := interp_flatMap_msgLines mode id₀ ms
  have : ({ lastID := id₀ } : IState) = clean id₀ := rfl
  simp only [this, hi]
  cases mode <;> simp [clean, dispatchable]

end GoSSE.Proofs
