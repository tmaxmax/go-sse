import GoSSE.Gen.Reset
import GoSSE.Model.Connection
/-!
# `resetRequestBody` and `Connection.resetRequest` as translated from client_connection.go = the model's

What a reconnection attempt does to the request: nothing before the first attempt; afterwards the body is re-obtained
through `GetBody` (a nil or `http.NoBody` body is left alone, a missing `GetBody` is `ErrNoGetBody`, its own error is
returned) and the `Last-Event-ID` header is set to the last dispatched ID or removed when that is empty.

The translated code works on `GoRT.HttpReq` (body, `GetBody` as the answers of its calls, header map); `toGenReq` is a
model request as such a value, with any other headers `rest` beside the one the model tracks.
-/
set_option linter.unusedSimpArgs false
namespace GoSSE.GenEquiv
open GoSSE GoSSE.GoRT GoSSE.Spec.Client GoSSE.Model.Client

/-- the canonical form of the key the source text uses, `"Last-Event-ID"` (the same bytes as `lastEventIdKey` of
`GenEquivUpgrade`, which this module does not import) -/
def leidKey : Bytes := [76, 97, 115, 116, 45, 69, 118, 101, 110, 116, 45, 73, 100]

theorem canonKey_leid : canonKey [76, 97, 115, 116, 45, 69, 118, 101, 110, 116, 45, 73, 68] = leidKey := by decide

def toGenBody : BodyRef → BodyV
  | .none => .nil
  | .noBody => .noBody
  | .orig => .tag 0
  | .fresh k => .tag k

/-- the request's `GetBody` as the answers of its calls: call number `k` fails when the model says so, and otherwise
returns the body the model calls `fresh (k + 1)` -/
def toGenGetBody : Spec.Client.GetBody → Option (Nat → BodyV × Option String)
  | .absent => none
  | .present failAt => some fun k => if failAt == some k then (.nil, some "GetBody") else (.tag (k + 1), none)

def toGenHdr (rest : List (Bytes × List Bytes)) : Option Bytes → List (Bytes × List Bytes)
  | none => rest
  | some v => rest ++ [(leidKey, [v])]

def toGenReq (rest : List (Bytes × List Bytes)) (r : Req) : HttpReq :=
  { Body := toGenBody r.body, GetBody := toGenGetBody r.getBody, gbCalls := r.getBodyCalls, Header := toGenHdr rest r.header }

def resetErrS : Option ErrV → Option String
  | none => none
  | some .noGetBody => some "ErrNoGetBody"
  | some _ => some "GetBody"

theorem resetErrS_some (e : ErrV) : (resetErrS (some e) != none) = true := by cases e <;> rfl

theorem resetRequestBody_eq (fuel : Nat) (rest : List (Bytes × List Bytes)) (r : Req) :
    Gen.resetRequestBody fuel (toGenReq rest r) =
      .ok (resetErrS (resetRequestBody r).2, toGenReq rest (resetRequestBody r).1) := by
  have hbody : (toGenBody r.body == BodyV.nil || toGenBody r.body == BodyV.noBody) = (r.body == .none || r.body == .noBody) := by
    cases r.body <;> rfl
  unfold Gen.resetRequestBody resetRequestBody
  simp only [toGenReq, hbody]
  by_cases hb : (r.body == .none || r.body == .noBody) = true
  · simp [hb, pure, Except.pure, resetErrS]
  · cases hg : r.getBody with
    | absent => simp [toGenGetBody, hb, hg, pure, Except.pure, resetErrS]
    | present failAt =>
      by_cases hf : failAt = some r.getBodyCalls <;>
        simp [toGenGetBody, toGenBody, hb, hg, hf, httpGetBody, bind, Except.bind, pure, Except.pure, resetErrS]

theorem headerDel_toGenHdr (rest : List (Bytes × List Bytes)) (h : Option Bytes) (hrest : ∀ e ∈ rest, e.1 ≠ leidKey) :
    headerDel (toGenHdr rest h) [76, 97, 115, 116, 45, 69, 118, 101, 110, 116, 45, 73, 68] = rest := by
  unfold headerDel
  rw [canonKey_leid]
  have hr : rest.filter (fun e => e.1 != leidKey) = rest :=
    List.filter_eq_self.2 fun e he => bne_iff_ne.mpr (hrest e he)
  cases h with
  | none => exact hr
  | some v =>
    show (rest ++ [(leidKey, [v])]).filter _ = rest
    rw [List.filter_append, hr, List.filter_cons_of_neg (p := (·.1 != leidKey)) (a := (leidKey, [v])) (by rw [bne_self_eq_false]; exact Bool.false_ne_true)]
    exact List.append_nil _

theorem headerSet_toGenHdr (rest : List (Bytes × List Bytes)) (h : Option Bytes) (v : Bytes) (hrest : ∀ e ∈ rest, e.1 ≠ leidKey) :
    headerSet (toGenHdr rest h) [76, 97, 115, 116, 45, 69, 118, 101, 110, 116, 45, 73, 68] v = toGenHdr rest (some v) := by
  unfold headerSet
  rw [headerDel_toGenHdr rest h hrest, canonKey_leid]
  rfl

/-- a model connection as the translated struct: its request, last event ID and `isRetry` (the other fields are
opaque to the translated functions: `Unit`) -/
def gOf (rest : List (Bytes × List Bytes)) (c : Conn) : Gen.Connection :=
  { mu := (), request := some (toGenReq rest c.req), callbacks := [], callbacksAll := [], lastEventID := c.lastEventID,
    client := (), buf := (), bufMaxSize := (), callbackID := 0, isRetry := c.isRetry, cblog := [] }

theorem resetRequest_eq (fuel : Nat) (rest : List (Bytes × List Bytes)) (hrest : ∀ e ∈ rest, e.1 ≠ leidKey) (c : Conn) :
    Gen.Connection_resetRequest fuel (gOf rest c) = .ok (resetErrS (resetRequest c).2, gOf rest (resetRequest c).1) := by
  unfold Gen.Connection_resetRequest resetRequest
  cases hr : c.isRetry with
  | false => simp [gOf, hr, pure, Except.pure, resetErrS]
  | true =>
    simp only [gOf, hr, Bool.not_true, Bool.false_eq_true, if_false, derefPtr, bind, Except.bind, pure, Except.pure,
      resetRequestBody_eq fuel rest c.req]
    cases he : (resetRequestBody c.req).2 with
    | some e => simp only [resetErrS_some, if_true, hr]
    | none =>
      simp only [resetErrS, bne_self_eq_false, Bool.false_eq_true, if_false]
      by_cases hl : c.lastEventID = []
      · simp [hl, toGenReq, hr, headerDel_toGenHdr rest _ hrest]
        rfl
      · have hl' : (c.lastEventID == ([] : Bytes)) = false := by simpa using hl
        have hl2 : c.lastEventID.isEmpty = false := by simpa [List.isEmpty_iff] using hl
        simp [hl', hl2, toGenReq, hr, headerSet_toGenHdr rest _ _ hrest]

end GoSSE.GenEquiv
