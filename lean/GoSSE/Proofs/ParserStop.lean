import GoSSE.Model.Parser
/-!
The equations of `Parser.next`, of `readLoop` and of `finish` (the code of `implRun` after the loop), and the early
stop of the consumer of `read()`: one that returns `false` from its `k`-th event yield sees exactly the first `k`
event yields of the full run, and no error if that cut the run. A simulation on `readLoop` (`StopSim`) in which
what `Parser.next` returns plays no part.
-/
namespace GoSSE.Proofs
open GoSSE GoSSE.Spec GoSSE.Model

/-- the shortest prefix of `o` that contains `k` event yields (all of `o` if it has fewer);
retries are kept where they occur before the k-th event -/
def takeEvents : Nat → List Out → List Out
  | 0, _ => []
  | _, [] => []
  | k + 1, .event e :: t => .event e :: takeEvents k t
  | k + 1, .retry n :: t => .retry n :: takeEvents (k + 1) t

theorem takeEvents_nil (k : Nat) : takeEvents k [] = [] := by
  cases k <;> rfl

theorem countEvents_nil : countEvents [] = 0 := rfl

theorem countEvents_event_cons (e : Event) (t : List Out) :
    countEvents (.event e :: t) = countEvents t + 1 := by
  simp [countEvents]

theorem countEvents_retry_cons (n : Nat) (t : List Out) :
    countEvents (.retry n :: t) = countEvents t := by
  simp [countEvents]

theorem countEvents_append (a b : List Out) :
    countEvents (a ++ b) = countEvents a + countEvents b := by
  simp [countEvents]

theorem takeEvents_append_lt (k : Nat) (a b : List Out) (h : countEvents a < k) :
    takeEvents k (a ++ b) = a ++ takeEvents (k - countEvents a) b := by
  induction a generalizing k with
  | nil => simp [countEvents_nil]
  | cons x t ih =>
    cases k with
    | zero => omega
    | succ k =>
      cases x with
      | event e =>
        rw [countEvents_event_cons] at h ⊢
        have := ih k (by omega)
        have hsub : k + 1 - (countEvents t + 1) = k - countEvents t := by omega
        simp only [List.cons_append, takeEvents, this, hsub]
      | retry n =>
        rw [countEvents_retry_cons] at h ⊢
        have := ih (k + 1) h
        simp only [List.cons_append, takeEvents, this]

theorem takeEvents_append_ge (k : Nat) (a b : List Out) (h : k ≤ countEvents a) :
    takeEvents k (a ++ b) = takeEvents k a := by
  induction a generalizing k with
  | nil =>
    have : k = 0 := by simpa [countEvents_nil] using h
    subst this
    simp [takeEvents]
  | cons x t ih =>
    cases k with
    | zero => simp [takeEvents]
    | succ k =>
      cases x with
      | event e =>
        rw [countEvents_event_cons] at h
        simp only [List.cons_append, takeEvents, ih k (by omega)]
      | retry n =>
        rw [countEvents_retry_cons] at h
        simp only [List.cons_append, takeEvents, ih (k + 1) h]

theorem takeEvents_of_lt (k : Nat) (a : List Out) (h : countEvents a < k) :
    takeEvents k a = a := by
  have := takeEvents_append_lt k a [] h
  cases hk : k - countEvents a <;> simpa [hk, takeEvents] using this

theorem readField_out (conn : Bool) (st : RState) (f : Field) :
    (readField conn st f).2 = [] ∨ (∃ e, (readField conn st f).2 = [.event e]) ∨
      (∃ n, (readField conn st f).2 = [.retry n]) := by
  unfold readField
  split
  · exact .inl rfl
  · exact .inl rfl
  · split <;> exact .inl rfl
  · split
    · exact .inl rfl
    · split
      · split
        · exact .inr (.inr ⟨_, rfl⟩)
        · exact .inl rfl
      · exact .inl rfl
  · split
    · exact .inr (.inl ⟨_, rfl⟩)
    · exact .inl rfl

/-- the parser after `Scan` has returned the token `tok` with advance `adv`; `fp'` is the field parser, drained -/
def onToken (p : Parser) (fp' : FP) (sc' : Scanner) (adv : Nat) (tok : Bytes) : Parser :=
  { p with
    fp := (if fp'.started || (p.skippedBlankLines || decide (adv > tok.length)) then fp'.setRemoveBOM false else fp').reset tok,
    sc := sc', skippedBlankLines := p.skippedBlankLines || decide (adv > tok.length) }

theorem parserNext_succ_some (fuel : Nat) (p : Parser) (f : Field) (fp' : FP)
    (h : FP.next (p.fp.data.length + 1) p.fp = (some f, fp')) :
    Parser.next (fuel + 1) p = (some f, { p with fp := fp' }) := by
  rw [Parser.next, h]

theorem parserNext_succ_none_none (fuel : Nat) (p : Parser) (fp' : FP) (sc' : Scanner)
    (h1 : FP.next (p.fp.data.length + 1) p.fp = (none, fp'))
    (h2 : Scanner.scan (p.sc.src.size + p.sc.data.length + 4) p.sc = (none, sc')) :
    Parser.next (fuel + 1) p = (none, { p with fp := fp', sc := sc', gone := sc'.err == some .eof }) := by
  rw [Parser.next, h1]; simp only; rw [h2]

theorem parserNext_succ_none_tok (fuel : Nat) (p : Parser) (fp' : FP) (sc' : Scanner) (adv : Nat) (tok : Bytes)
    (h1 : FP.next (p.fp.data.length + 1) p.fp = (none, fp'))
    (h2 : Scanner.scan (p.sc.src.size + p.sc.data.length + 4) p.sc = (some (adv, tok), sc')) :
    Parser.next (fuel + 1) p = Parser.next fuel (onToken p fp' sc' adv tok) := by
  rw [Parser.next, h1]; simp only; rw [h2]; rfl

theorem readLoop_zero (conn : Bool) (s : Option Nat) (p : Parser) (st : RState)
    (outs : List Out) : readLoop conn s 0 p st outs = (p, st, outs, false) := by
  rw [readLoop]

theorem readLoop_succ_none (conn : Bool) (s : Option Nat) (fuel : Nat) (p p' : Parser)
    (st : RState) (outs : List Out)
    (h : p.next (p.sc.src.size + p.sc.data.length + 4) = (none, p')) :
    readLoop conn s (fuel + 1) p st outs = (p', st, outs, false) := by
  rw [readLoop, h]

theorem readLoop_succ_some (conn : Bool) (s : Option Nat) (fuel : Nat) (p p' : Parser) (f : Field)
    (st : RState) (outs : List Out)
    (h : p.next (p.sc.src.size + p.sc.data.length + 4) = (some f, p')) :
    readLoop conn s (fuel + 1) p st outs =
      if (!(readField conn st f).2.isEmpty && stopped s (outs ++ (readField conn st f).2)) = true
      then (p', (readField conn st f).1, outs ++ (readField conn st f).2, true)
      else readLoop conn s fuel p' (readField conn st f).1 (outs ++ (readField conn st f).2) := by
  rw [readLoop, h]

theorem stopped_none (o : List Out) : stopped none o = false := rfl
theorem stopped_some_iff (k : Nat) (o : List Out) :
    stopped (some k) o = true ↔ k ≤ countEvents o := by
  simp [stopped]

theorem readLoop_succ_some_none (conn : Bool) (fuel : Nat) (p p' : Parser) (f : Field)
    (st : RState) (outs : List Out)
    (h : p.next (p.sc.src.size + p.sc.data.length + 4) = (some f, p')) :
    readLoop conn none (fuel + 1) p st outs =
      readLoop conn none fuel p' (readField conn st f).1 (outs ++ (readField conn st f).2) := by
  rw [readLoop_succ_some _ _ _ _ _ _ _ _ h, stopped_none, Bool.and_false,
    if_neg Bool.false_ne_true]

theorem next_cases (p : Parser) (n : Nat) :
    (∃ p', p.next n = (none, p')) ∨ (∃ f p', p.next n = (some f, p')) := by
  rcases h : p.next n with ⟨_ | f, p'⟩
  · exact .inl ⟨p', rfl⟩
  · exact .inr ⟨f, p', rfl⟩

theorem readLoop_none_eq (conn : Bool) (fuel : Nat) (p : Parser) (st : RState) (outs : List Out) :
    ∃ pF stF t, readLoop conn none fuel p st outs = (pF, stF, outs ++ t, false) := by
  induction fuel generalizing p st outs with
  | zero => exact ⟨p, st, [], by rw [readLoop_zero, List.append_nil]⟩
  | succ fuel ih =>
    rcases next_cases p (p.sc.src.size + p.sc.data.length + 4) with ⟨p', h⟩ | ⟨f, p', h⟩
    · exact ⟨p', st, [], by rw [readLoop_succ_none _ _ _ _ _ _ _ h, List.append_nil]⟩
    · rw [readLoop_succ_some_none _ _ _ _ _ _ _ h]
      obtain ⟨pF, stF, t, ht⟩ := ih p' (readField conn st f).1 (outs ++ (readField conn st f).2)
      exact ⟨pF, stF, _, by rw [ht, List.append_assoc]⟩

theorem yield_stop (conn : Bool) (st : RState) (f : Field) (k : Nat) (outs : List Out) (h : countEvents outs < k) :
    if (!(readField conn st f).2.isEmpty && stopped (some k) (outs ++ (readField conn st f).2)) = true
    then ∃ e, (readField conn st f).2 = [.event e] ∧ k = countEvents outs + 1
    else countEvents (outs ++ (readField conn st f).2) < k := by
  simp only [Bool.and_eq_true, stopped_some_iff, countEvents_append]
  rcases readField_out conn st f with h0 | ⟨e, he⟩ | ⟨n, hn⟩
  · rw [h0, if_neg (fun hc => Bool.noConfusion hc.1)]; exact h
  · rw [he, countEvents_event_cons, countEvents_nil]
    split
    · exact ⟨e, rfl, by omega⟩
    · rename_i hc
      have : ¬ k ≤ countEvents outs + (0 + 1) := fun hk => hc ⟨rfl, hk⟩
      omega
  · rw [hn, countEvents_retry_cons, countEvents_nil, if_neg (fun hc => by omega)]; omega

/-- the result of the run that the consumer stops at its `k`-th event (first) against that of the full run (second) -/
inductive StopSim (k : Nat) : Parser × RState × List Out × Bool → Parser × RState × List Out × Bool → Prop
  | same (p : Parser) (st : RState) (outs : List Out) (hlt : countEvents outs < k) :
      StopSim k (p, st, outs, false) (p, st, outs, false)
  | cut (p pF : Parser) (st stF : RState) (outsF : List Out) (hge : k ≤ countEvents outsF) :
      StopSim k (p, st, takeEvents k outsF, true) (pF, stF, outsF, false)

theorem readLoop_sim (conn : Bool) (k : Nat) (fuel : Nat) (p : Parser) (st : RState)
    (outs : List Out) (h : countEvents outs < k) :
    StopSim k (readLoop conn (some k) fuel p st outs) (readLoop conn none fuel p st outs) := by
  induction fuel generalizing p st outs with
  | zero => rw [readLoop_zero, readLoop_zero]; exact .same p st outs h
  | succ fuel ih =>
    rcases next_cases p (p.sc.src.size + p.sc.data.length + 4) with ⟨p', hn⟩ | ⟨f, p', hn⟩
    · rw [readLoop_succ_none _ _ _ _ _ _ _ hn, readLoop_succ_none _ _ _ _ _ _ _ hn]
      exact .same p' st outs h
    · rw [readLoop_succ_some_none _ _ _ _ _ _ _ hn, readLoop_succ_some _ _ _ _ _ _ _ _ hn]
      have hy := yield_stop conn st f k outs h
      split at hy
      · rename_i hc
        obtain ⟨e, he, hk⟩ := hy
        obtain ⟨pF, stF, t, ht⟩ := readLoop_none_eq conn fuel p' (readField conn st f).1 (outs ++ (readField conn st f).2)
        rw [if_pos hc, ht, he]
        have htake : takeEvents k (outs ++ [Out.event e] ++ t) = outs ++ [Out.event e] := by
          rw [List.append_assoc, takeEvents_append_lt k outs _ h, hk, Nat.add_sub_cancel_left, List.singleton_append,
            takeEvents, takeEvents]
        have hcut := StopSim.cut (k := k) p' pF (readField conn st f).1 stF (outs ++ [Out.event e] ++ t) (by
          rw [countEvents_append, countEvents_append, countEvents_event_cons, countEvents_nil]; omega)
        rwa [htake] at hcut
      · rename_i hc
        rw [if_neg hc]
        exact ih p' _ _ hy

/-- the part of `implRun` after the loop -/
def finish (conn : Bool) (stopAt : Option Nat) (r : Parser × RState × List Out × Bool) :
    List Out × PErr × Nat :=
  if r.2.2.2 then (r.2.2.1, .none, r.1.sc.pulled) else
  if r.2.1.dirty && r.1.err == .eof then
    if stopped stopAt (r.2.2.1 ++ [.event (doYield r.2.1)])
    then (r.2.2.1 ++ [.event (doYield r.2.1)], .none, r.1.sc.pulled)
    else (r.2.2.1 ++ [.event (doYield r.2.1)], if !conn then .none else r.1.err, r.1.sc.pulled)
  else (r.2.2.1, if r.1.err == .eof && !conn then .none else r.1.err, r.1.sc.pulled)

theorem implRun_eq_finish (conn : Bool) (lastID : Bytes) (src : Source) (cfg : Option (Nat × Int))
    (stopAt : Option Nat) :
    implRun conn lastID src cfg stopAt =
      finish conn stopAt (readLoop conn stopAt (src.size + 4) { sc := mkScanner src cfg }
        { lastID := lastID } []) := rfl

section
variable (conn : Bool) (stopAt : Option Nat) (p : Parser) (st : RState) (outs : List Out)

theorem finish_stopped : finish conn stopAt (p, st, outs, true) = (outs, .none, p.sc.pulled) := rfl

theorem finish_clean (h : (st.dirty && p.err == .eof) = false) :
    finish conn stopAt (p, st, outs, false) = (outs, if p.err == .eof && !conn then .none else p.err, p.sc.pulled) := by
  simp only [finish, Bool.false_eq_true, if_false, h]

theorem finish_dirty (h : (st.dirty && p.err == .eof) = true) :
    finish conn stopAt (p, st, outs, false) = (outs ++ [.event (doYield st)],
      if stopped stopAt (outs ++ [.event (doYield st)]) then .none else if !conn then .none else p.err,
      p.sc.pulled) := by
  simp only [finish, Bool.false_eq_true, if_false, h, if_true]
  cases stopped stopAt (outs ++ [.event (doYield st)]) <;> rfl

end

section
variable (conn : Bool) (stopAt : Option Nat) (r : Parser × RState × List Out × Bool)

theorem finish_pulled : (finish conn stopAt r).2.2 = r.1.sc.pulled := by
  simp only [finish, apply_ite (fun t : List Out × PErr × Nat => t.2.2), ite_self]

theorem finish_tooLong (h : (finish conn stopAt r).2.1 = PErr.tooLong) : r.1.err = PErr.tooLong := by
  obtain ⟨p, st, outs, b⟩ := r
  cases b with
  | true => rw [finish_stopped] at h; cases h
  | false =>
    cases hd : st.dirty && p.err == .eof with
    | true =>
      rw [finish_dirty conn stopAt p st outs hd] at h
      simp only at h
      split at h
      · cases h
      · split at h
        · cases h
        · exact h
    | false =>
      rw [finish_clean conn stopAt p st outs hd] at h
      simp only at h
      split at h
      · cases h
      · exact h

theorem finish_early_stop (k : Nat) {K F : Parser × RState × List Out × Bool} (hsim : StopSim k K F) :
    (finish conn (some k) K).1 = takeEvents k (finish conn none F).1 ∧
    (k ≤ countEvents (finish conn none F).1 → (finish conn (some k) K).2.1 = PErr.none) ∧
    (countEvents (finish conn none F).1 < k → finish conn (some k) K = finish conn none F) := by
  have hcnt : ∀ (outs : List Out) (st : RState),
      countEvents (outs ++ [Out.event (doYield st)]) = countEvents outs + 1 := fun outs st => by
    rw [countEvents_append, countEvents_event_cons, countEvents_nil]
  cases hsim with
  | same p st outs hlt =>
    cases hd : st.dirty && p.err == .eof with
    | false =>
      rw [finish_clean conn (some k) p st outs hd, finish_clean conn none p st outs hd]
      exact ⟨(takeEvents_of_lt k _ hlt).symm, fun h => absurd hlt (Nat.not_lt.2 h), fun _ => rfl⟩
    | true =>
      rw [finish_dirty conn (some k) p st outs hd, finish_dirty conn none p st outs hd]
      refine ⟨?_, fun h => if_pos ((stopped_some_iff k _).2 h), fun h => ?_⟩
      · -- the pending event is the `k`-th at the earliest
        show _ = takeEvents k _
        rw [takeEvents_append_lt k _ _ hlt]
        cases hm : k - countEvents outs with
        | zero => omega
        | succ m => rw [takeEvents, takeEvents_nil]
      · simp only at h
        rw [if_neg fun hs => Nat.not_lt.2 ((stopped_some_iff k _).1 hs) h]
        rfl
  | cut p pF st stF outsF hge =>
    rw [finish_stopped]
    cases hd : stF.dirty && pF.err == .eof with
    | false =>
      rw [finish_clean conn none pF stF outsF hd]
      exact ⟨rfl, fun _ => rfl, fun h => absurd h (Nat.not_lt.2 hge)⟩
    | true =>
      rw [finish_dirty conn none pF stF outsF hd]
      refine ⟨(takeEvents_append_ge k _ _ hge).symm, fun _ => rfl, fun h => ?_⟩
      simp only [hcnt] at h; omega

end

theorem implRun_early_stop (conn : Bool) (lastID : Bytes) (src : Source) (cfg : Option (Nat × Int))
    (k : Nat) (hk : 1 ≤ k) :
    let r := implRun conn lastID src cfg none
    let rk := implRun conn lastID src cfg (some k)
    rk.1 = takeEvents k r.1 ∧
    (k ≤ countEvents r.1 → rk.2.1 = PErr.none) ∧
    (countEvents r.1 < k → rk = r) := by
  intro r rk
  show (implRun conn lastID src cfg (some k)).1 = takeEvents k (implRun conn lastID src cfg none).1 ∧
    (k ≤ countEvents (implRun conn lastID src cfg none).1 →
      (implRun conn lastID src cfg (some k)).2.1 = PErr.none) ∧
    (countEvents (implRun conn lastID src cfg none).1 < k →
      implRun conn lastID src cfg (some k) = implRun conn lastID src cfg none)
  rw [implRun_eq_finish, implRun_eq_finish]
  exact finish_early_stop conn k (readLoop_sim conn k _ _ _ [] (by rw [countEvents_nil]; omega))

end GoSSE.Proofs
