import GoSSE.Proofs.SessionServer
import GoSSE.Proofs.GenEquivSession
import GoSSE.Proofs.GenEquivUpgrade
import GoSSE.Proofs.GenEquivWriters
import GoSSE.Proofs.GenEquivServer
/-!
# C16 — Session and Server keep the HTTP side of the protocol

Every theorem of the session part holds for **every** fault schedule `sched : Nat → Option Nat`
(each `Write`/`Flush` call of the response writer may fail independently, a failing `Write` accepts any
number of bytes up to what was offered), every list `ops` of `Send`/`Flush` calls with arbitrary
messages, every writer layer/flush method `s.res`, and every starting value `c` of the call counter
(i.e. whatever `OnSession` did to the writer before). A run is `runOps sched s c ops`; its observation
`obs` has one entry per call with the events the call caused on the writer and the value it returned;
`trace obs` is the whole log, `bodyOf` the bytes the writer accepted.
-/
namespace GoSSE.Props.C16
open GoSSE GoSSE.Model.Session GoSSE.Model.Server GoSSE.Spec.HttpLog GoSSE.Proofs.Session

/-- the events `doUpgrade` causes when its flush succeeds: `Content-Type: text/event-stream` is assigned
on the session's writer, then that writer is flushed without error -/
abbrev upgradePair (res : Res) : List Ev := [upgradeHeader res, .flush res.lvl res.kind none]

/-- **The header is set and flushed before the first event byte.** Whatever `Write` call appears in
the log of a fresh session (even one that accepted nothing), the header assignment immediately
followed by a successful flush appears before it. -/
theorem no_body_before_successful_upgrade_flush (sched : Sched) (s : Session) (c : Nat) (ops : List Op)
    (hs : s.didUpgrade = false) (pre post : List Ev) (e : Ev)
    (h : trace (runOps sched s c ops).obs = pre ++ e :: post) (hw : e.isWrite = true) :
    ∃ a b, pre = a ++ upgradePair s.res ++ b := by
  have hp := run_phases sched s c ops
  rw [h, phaseOf_fresh hs] at hp
  obtain ⟨q, hq, hp⟩ := phases_append_eq_some.mp hp
  obtain ⟨q2, hq2, _⟩ := phases_cons_eq_some.mp hp
  cases write_needs_upgraded s.res q e q2 hq2 hw
  rcases reach_upgraded s.res pre .fresh hq with h1 | ⟨h1, _⟩ | h1
  · cases h1
  · cases h1
  · exact h1

/-- non-vacuity: a Send on a fresh session does write, after the pair -/
example : trace (runOps (fun _ => none) ⟨⟨0, .flushError⟩, false⟩ 0 [.send ⟨none, none, 0, [([120], false)]⟩]).obs
    = upgradePair ⟨0, .flushError⟩ ++ [.write 0 bytesData bytesData none, .write 0 [120] [120] none,
        .write 0 nl nl none, .write 0 nl nl none] := by decide

/-- **… and only once.** Once the header assignment has been followed by a successful flush, the header
is never assigned again, whatever is called afterwards and whatever fails; before that point the log
consists of header assignments and *failed* flushes only (failed attempts are repeated, a successful one
is not). -/
theorem upgrade_flush_succeeds_at_most_once (sched : Sched) (s : Session) (c : Nat) (ops : List Op)
    (hs : s.didUpgrade = false) (a b : List Ev) (x y : Ev)
    (h : trace (runOps sched s c ops).obs = a ++ x :: y :: b) (hx : x.isHeaderSet = true) (hy : isOkFlush y = true) :
    (∀ e ∈ b, e.isHeaderSet = false) ∧
    (∀ e ∈ a, e.isHeaderSet = true ∨ ∃ l k j, e = .flush l k (some j)) := by
  have hp := run_phases sched s c ops
  rw [h, phaseOf_fresh hs] at hp
  obtain ⟨q, hq, hp⟩ := phases_append_eq_some.mp hp
  obtain ⟨q2, hq2, hp⟩ := phases_cons_eq_some.mp hp
  obtain ⟨rfl, rfl, _⟩ := headerSet_needs_fresh s.res q x q2 hq2 hx
  obtain ⟨q3, hq3, hp⟩ := phases_cons_eq_some.mp hp
  obtain ⟨err, rfl, rfl⟩ := stepPhase_headerSet.mp hq3
  cases err with
  | some j => cases hy
  | none => exact ⟨(upgraded_stays s.res b _ hp).2, (not_upgraded_yet s.res a .fresh .fresh hq nofun).2⟩

/-- **`Flush` right after an upgrade does not flush twice**: every `Flush` call, from any state and
under any schedule, flushes the writer exactly once (and a `Send` never does, except for the upgrade). -/
theorem flush_flushes_exactly_once (sched : Sched) (s : Session) (c : Nat) (ops : List Op) :
    ∀ e ∈ (runOps sched s c ops).obs, e.op = .flush → (e.evs.filter Ev.isFlush).length = 1 := by
  intro e he hop
  obtain ⟨s', c', op, _, rfl⟩ := run_entry he
  cases (hop : op = .flush)
  obtain ⟨pre, hpre, h⟩ := flush_cases sched s' c'
  show ((flush sched s' c').evs.filter Ev.isFlush).length = 1
  rw [h]
  rcases hpre with rfl | rfl <;> rfl

/-- **The body is exactly the concatenation of the sent messages' encodings.** The body is the
concatenation of what each call contributed, and each call contributed (`Contribution`): `Flush` — nothing;
`Send m` returning nil — exactly `encode m`; `Send m` returning the error of writer call `k` — either no
`Write` was attempted (the upgrade flush failed) or the `Write`s before the failing one in full plus the
first `n` bytes of the failing one, `sched k = some n`. -/
theorem body_is_concat_of_encodings (sched : Sched) (s : Session) (c : Nat) (ops : List Op) :
    bodyOf (trace (runOps sched s c ops).obs) = ((runOps sched s c ops).obs.map fun e => bodyOf e.evs).flatten ∧
    ∀ e ∈ (runOps sched s c ops).obs, Contribution sched e :=
  ⟨bodyOf_trace _, fun _ he => by
    obtain ⟨s', c', op, _, rfl⟩ := run_entry he
    exact step_contribution sched s' c' op⟩

/-- … in particular a failed `Send` leaves a prefix of its message's encoding, -/
theorem failed_send_leaves_prefix (sched : Sched) (s : Session) (c : Nat) (ops : List Op) :
    ∀ e ∈ (runOps sched s c ops).obs, ∀ m, e.op = .send m → bodyOf e.evs <+: encode m :=
  fun e he _ hop => ((body_is_concat_of_encodings sched s c ops).2 e he).prefix hop

/-- … and when no call reported an error the body is exactly the encodings of the sent messages, in order. -/
theorem body_when_no_error (sched : Sched) (s : Session) (c : Nat) (ops : List Op)
    (hr : ∀ e ∈ (runOps sched s c ops).obs, e.ret = none) :
    bodyOf (trace (runOps sched s c ops).obs) = (sentMsgs ops).flatMap encode := by
  have h := body_is_concat_of_encodings sched s c ops
  rw [h.1, body_all_ok sched _ h.2 hr, run_ops]

/-- non-vacuity of the failing branch: a short write in the middle of a message -/
example : (runOps (fun k => if k = 2 then some 1 else none) ⟨⟨0, .flushError⟩, false⟩ 0
    [.send ⟨none, none, 0, [([120, 121], false)]⟩]).obs.map (fun e => (bodyOf e.evs, e.ret))
    = [(bytesData ++ [120], some 2)] := by decide

/-- **`Flush` pushes everything sent so far.** When a `Flush` returns nil, the log up to and including
that call ends with a flush of the session's writer that reported no error: no accepted byte follows
the last flush. -/
theorem flush_pushes_everything (sched : Sched) (s : Session) (c : Nat) (ops : List Op)
    (before after : List Entry) (e : Entry) (h : (runOps sched s c ops).obs = before ++ e :: after)
    (hop : e.op = .flush) (hret : e.ret = none) :
    ∃ pre, trace (before ++ [e]) = pre ++ [.flush s.res.lvl s.res.kind none] := by
  obtain ⟨s', c', op, hres, rfl⟩ := run_entry (h ▸ List.mem_append_right before List.mem_cons_self)
  cases (hop : op = .flush)
  obtain ⟨pre, _, hpre⟩ := flush_cases sched s' c'
  rw [show (flush sched s' c').err = none from hret] at hpre
  refine ⟨trace before ++ pre, ?_⟩
  rw [trace_append, List.append_assoc, ← hres]
  exact congrArg (trace before ++ ·) ((List.flatMap_singleton ..).trans hpre)

/-- **The first write or flush error is returned to the caller.** Every call returns the first error
any writer call made on its behalf returned (nil if none did); moreover the call stops there: the
failing writer call is the last thing it does. -/
theorem first_error_returned (sched : Sched) (s : Session) (c : Nat) (ops : List Op) :
    ∀ e ∈ (runOps sched s c ops).obs,
      e.ret = firstErr e.evs ∧
      ∀ a x b, e.evs = a ++ x :: b → x.err ≠ none → b = [] ∧ e.ret = x.err := by
  intro e he
  obtain ⟨s', c', op, _, rfl⟩ := run_entry he
  have g := (step_facts sched s' c' op).good
  exact ⟨g.firstErr.symm, fun a x b h hx => g.stops h hx⟩

/-- The executable specification (`Spec/HttpLog.checkSession`, the oracle `./check` evaluates on the
real code's log) accepts every run of the model. -/
theorem session_spec_holds (sched : Sched) (s : Session) (c : Nat) (ops : List Op) (hs : s.didUpgrade = false) :
    checkSession s.res (runOps sched s c ops).obs = "ok" := by
  have hp := run_phases sched s c ops
  rw [phaseOf_fresh hs] at hp
  simp [checkSession, hp, run_all sched (step_retOK sched), run_all sched fun s c op => (step_contribution sched s c op).bodyOK,
    run_all sched (step_flushOK sched)]

/-- **Which writer.** `getResponseWriter` stops at the outermost layer that can flush at all (unwrapping
only layers that cannot) and flushes through `FlushError` when that layer has it; it gives up (nil,
`ErrUpgradeUnsupported`) exactly when no layer can flush. -/
theorem getResponseWriter_spec (shape : Shape) : getResponseWriter shape 0 = resolve (layers shape) :=
  getResponseWriter_zero shape

/-- **The subscription.** Whenever `ServeHTTP` calls the provider, the subscription carries the
request's Last-Event-ID — the first value under the key `Last-Event-Id`, unset when the key is absent,
has no values, the value is empty or is not a single line — and the topics `OnSession` returned,
`DefaultTopic` if it is nil or returned none. The provider is called iff the writer can flush and
`OnSession` did not reject. -/
theorem subscription_fields (sched : Sched) (shape : Shape) (h : Header) (onSession : Option OnSessionB)
    (prov : ProviderB) :
    (serveHTTP sched shape h onSession prov).sub =
      if (resolve (layers shape)).isSome ∧ (∀ b, onSession = some b → b.ok = true)
      then some ⟨expectedLastEventID h, expectedTopics onSession⟩ else none := by
  cases hres : resolve (layers shape) with
  | none =>
    rw [serveHTTP_unsupported sched h onSession prov hres]
    exact (if_neg fun hc => Bool.false_ne_true hc.1).symm
  | some res =>
    rcases accepted_or_rejected onSession with hok | ⟨b, rfl, hb⟩
    · rw [serveHTTP_accepted sched h prov hres hok, if_pos ⟨rfl, hok⟩]
    · rw [serveHTTP_rejected sched h prov hres hb, if_neg fun hc => Bool.false_ne_true (hb ▸ hc.2 b rfl)]

/-- the header rule case by case -/
theorem last_event_id_cases (h : Header) :
    (h.lookup headerLastEventID = none → lastEventIDOf h = none) ∧
    (h.lookup headerLastEventID = some [] → lastEventIDOf h = none) ∧
    (∀ v rest, h.lookup headerLastEventID = some (v :: rest) →
      lastEventIDOf h = if v = [] ∨ 10 ∈ v ∨ 13 ∈ v then none else some v) := by
  refine ⟨fun h0 => by rw [lastEventIDOf, h0], fun h0 => by rw [lastEventIDOf, h0], fun v rest h0 => ?_⟩
  rw [lastEventIDOf_of_lookup h0]
  simp only [Bool.or_eq_true, List.isEmpty_iff, hasNewline_iff]

/-- non-vacuity: only the first value counts; a multi-line value leaves the ID unset -/
example : lastEventIDOf [(headerLastEventID, [[53], [54]])] = some [53] ∧
    lastEventIDOf [(headerLastEventID, [[53, 10, 54]])] = none ∧
    lastEventIDOf [([108, 97, 115, 116, 45, 101, 118, 101, 110, 116, 45, 105, 100], [[53]])] = none := by decide

/-- **A rejected session: `ServeHTTP` writes nothing of its own.** When `OnSession` returns false the
provider is not called and the log is exactly what `OnSession` itself did with the writer. -/
theorem rejected_session_writes_nothing (sched : Sched) (shape : Shape) (h : Header) (b : OnSessionB)
    (prov : ProviderB) (res : Res) (hres : resolve (layers shape) = some res) (hrej : b.ok = false) :
    let o := serveHTTP sched shape h (some b) prov
    o.sub = none ∧ o.obs = [] ∧ o.tail = [] ∧ o.log = (runActs sched res 0 b.acts).1 := by
  rw [serveHTTP_rejected sched h prov hres hrej]
  exact ⟨rfl, rfl, rfl, (List.append_nil _).trans (List.append_nil _)⟩

/-- **The 500 table.** (1) The writer cannot flush: `OnSession` and the provider are not called and the
response is `http.Error("Server-sent events unsupported", 500)`. (2) The provider returns an error:
`ServeHTTP` answers `http.Error(<error text>, 500)` after whatever the provider did with the session —
in particular, when nothing was sent before, the response *is* that 500. (3) The provider returns nil,
or (4) `OnSession` rejects: `ServeHTTP` adds nothing. -/
theorem error_500_table (sched : Sched) (shape : Shape) (h : Header) (onSession : Option OnSessionB)
    (prov : ProviderB) :
    let o := serveHTTP sched shape h onSession prov
    (resolve (layers shape) = none →
      o = ⟨false, [], none, [], httpError sched 0 unsupportedText 500⟩) ∧
    (∀ text, o.sub.isSome → provError prov.ret o.obs = some text →
      ∃ calls, o.tail = httpError sched calls text 500) ∧
    (o.sub.isSome → provError prov.ret o.obs = none → o.tail = []) ∧
    (o.sub.isNone → (resolve (layers shape)).isSome → o.tail = []) ∧
    (∀ calls text, answers500 (httpError sched calls text 500) = true) := by
  cases hres : resolve (layers shape) with
  | none =>
    rw [serveHTTP_unsupported sched h onSession prov hres]
    exact ⟨fun _ => rfl, nofun, nofun, nofun, answers500_httpError sched⟩
  | some res =>
    rcases accepted_or_rejected onSession with hok | ⟨b, rfl, hb⟩
    · rw [serveHTTP_accepted sched h prov hres hok]
      exact ⟨nofun, fun text _ hp => ⟨_, congrArg (errorTail sched _) hp⟩,
        fun _ hp => congrArg (errorTail sched _) hp, nofun, answers500_httpError sched⟩
    · rw [serveHTTP_rejected sched h prov hres hb]
      exact ⟨nofun, nofun, nofun, fun _ _ => rfl, answers500_httpError sched⟩

/-- The executable specification of `ServeHTTP` (`Spec/HttpLog.checkServed`, evaluated by `./check`
on what the real code did) accepts every run of the model. -/
theorem served_spec_holds (sched : Sched) (shape : Shape) (h : Header) (onSession : Option OnSessionB)
    (prov : ProviderB) :
    let o := serveHTTP sched shape h onSession prov
    checkServed shape h onSession (provError prov.ret o.obs).isSome o = "ok" := by
  cases hres : resolve (layers shape) with
  | none =>
    -- the writer cannot flush: nothing was called or recorded, and the answer is a 500 (`answers500_httpError`)
    rw [serveHTTP_unsupported sched h onSession prov hres]
    simp [checkServed, hres, answers500_httpError]
  | some res =>
    rcases accepted_or_rejected onSession with hok | ⟨b, rfl, hb⟩
    · -- accepted: the subscription is the expected one (it stands in `serveHTTP_accepted`), the session's entries pass
      -- `checkSession` (`session_spec_holds`), and a refusal with nothing sent gets its 500 from `errorTail` (`refused_answered`)
      rw [serveHTTP_accepted sched h prov hres hok]
      have hsess := fun c => session_spec_holds sched ⟨res, false⟩ c prov.ops rfl
      cases onSession with
      | none => simp [checkServed, hres, hsess, refused_answered]
      | some b => simp [checkServed, hres, hsess, refused_answered, hok b rfl]
    · -- rejected: no subscription, no entries, no tail (they stand in `serveHTTP_rejected`)
      rw [serveHTTP_rejected sched h prov hres hb]
      simp [checkServed, hres, hb]

/-- **`Session.Send`, `Session.Flush` and `Session.doUpgrade` as translated from session.go** — `Send` through the
translated `Message.WriteTo` with every `if err != nil { return }` of message.go — over the recording response writer
with *any* fault schedule (`GenEquiv.resOf`: the writer the theorems above quantify over, as a response writer of the
translated code: a state (calls so far, events so far), `Write`, `Flush`, `Header()[k] = v`): **for every sequence of
`Send` / `Flush` calls** with any messages (built values with a `time.Duration` retry), starting from any session
state, call counter and log, the translated code returns call by call what `runOps` returns, makes exactly the writer
calls `runOps` logs, and leaves `runOps`' session; it does not panic. The theorems above (`session_spec_holds` and its
parts) are therefore statements about the source text of session.go. -/
theorem translated_session_is_model (fuel : Nat) (sched : Sched) (ops : List GenEquiv.GOp) (s : Session) (c : Nat) (log : List Ev)
    (lid : Gen.EventID) (hf : 13 < fuel) (hok : ∀ op ∈ ops, op.Ok fuel) :
    GenEquiv.genRun fuel (GenEquiv.toGenS sched s (c, log) lid) ops =
      .ok ((runOps sched s c (ops.map GenEquiv.GOp.toOp)).obs.map (fun e => e.ret.map GenEquiv.errS),
           GenEquiv.toGenS sched (runOps sched s c (ops.map GenEquiv.GOp.toOp)).s
             ((runOps sched s c (ops.map GenEquiv.GOp.toOp)).calls,
              log ++ trace (runOps sched s c (ops.map GenEquiv.GOp.toOp)).obs) lid) :=
  GenEquiv.genRun_eq fuel sched ops s c log lid hf hok

/-- The session model's own small message encoding (`encodeWrites`, what `body_is_concat_of_encodings` speaks of) is
the message model's list of `Write` calls (`Message.writes`, what C02/C15 are stated over and the translated
`WriteTo` is proved to make): the two hand-written models agree for every message. -/
theorem session_encoding_is_message_encoding (m : GoSSE.Model.Message) (hm : m.retry ≤ (maxInt64 : Int)) :
    encodeWrites (GoSSE.Proofs.msgOf m) = m.writes :=
  GoSSE.Proofs.encodeWrites_msgOf m hm

/-- non-vacuity: a fresh session, a failing first flush, then a successful `Send` of `id: 7` + `data: x` and a `Flush` -/
example :
    (GenEquiv.genRun 20 (GenEquiv.toGenS (fun c => if c = 0 then some 0 else none) ⟨⟨0, .flushError⟩, false⟩ (0, []) default)
      [.send { chunks := [{ content := [120], isComment := false }], id := { value := [55], set := true } }, .flush,
       .send { chunks := [{ content := [120], isComment := false }], id := { value := [55], set := true } }]).map (·.1) =
    .ok [some "0", none, none] := by
  rfl

/-- **`sse.Upgrade` as translated from session.go.** Which writer the session gets is `getResponseWriter`'s answer, a
parameter here (`grw`: any function; its model is `getResponseWriter_spec` above, tied by the SESS / SERVE
correspondence): when it answers nil, `Upgrade` returns `ErrUpgradeUnsupported` and no session; otherwise a session over
that writer and the request, not yet upgraded, whose `LastEventID` is `upgradeLastEventID` of the values stored under
the canonical `Last-Event-Id` key — the function `last_event_id_cases` is stated over. It does not panic. -/
theorem translated_Upgrade_is_model {σ : Type} (fuel : Nat) (w : GoRT.HttpRW) (r : GoRT.HttpReq)
    (grw : GoRT.HttpRW → Option (GoRT.ResW σ))
    (hf : ∀ v ∈ (GoRT.headerGet r.Header GenEquiv.lastEventIdKey).head?, v.length < fuel) :
    Gen.Upgrade fuel w r grw =
      .ok (match grw w with
           | none => (none, some "ErrUpgradeUnsupported", r)
           | some rw => (some (GenEquiv.sessOf rw r (GoSSE.Model.upgradeLastEventID (GoRT.headerGet r.Header GenEquiv.lastEventIdKey))), none, r)) :=
  GenEquiv.Upgrade_eq fuel w r grw hf

/-- **`getResponseWriter` as translated from session.go** — the function `translated_Upgrade_is_model` takes as a
parameter. An `http.ResponseWriter` is a `GoRT.DynRW` there (an identity, the extra methods of its dynamic type, what
`Unwrap()` returns); a model `Shape` is such a writer with the layer numbers as identities (`toDyn`). For **every** shape
(any depth of `Unwrap()` wrappers, any combination of `Flush()` / `FlushError() error` on each layer) the translated loop
ends without a fault and chooses what the model chooses (`getResponseWriter_spec`: the outermost layer that can flush at
all, through `FlushError` if that layer has it, else through `Flush`; nil when no layer can) — named by the wrapper type
the source builds and the layer it wraps. -/
theorem translated_getResponseWriter_is_model (fuel : Nat) (sh : Shape) (hf : GenEquiv.depth sh < fuel) :
    ∃ r, Gen.getResponseWriter fuel (GenEquiv.toDyn sh 0) = .ok r ∧
      GenEquiv.resView r = GenEquiv.modelView (getResponseWriter sh 0) :=
  GenEquiv.getResponseWriter_eq fuel sh hf

/-- non-vacuity: a plain `Unwrap()`-only wrapper around a layer with both methods around anything: layer 1, `FlushError` -/
example :
    (Gen.getResponseWriter 5 (GenEquiv.toDyn (.wrapped .plain (.wrapped .both (.base .flusher))) 0)).map GenEquiv.resView =
      .ok (some ("flusherErrorWrapper", 1)) := by
  rfl

/-- **`Server.getSubscription` as translated from server.go** — "subscribes the session to the topics chosen by OnSession
(the default topic if it names none)". `OnSession` is the caller's callback: a parameter (`none` = the field is nil), read
from the field **at this call**. For every session and every callback the translated function does not fault, leaves
server and session alone, and answers the model's `getSubscription` of what the callback returned for this session's
writer and request: the subscriber is this session, with its `LastEventID`; the topics are the callback's when it approves
and names at least one, else the default topic; the verdict is the callback's (`true` without one). -/
theorem translated_getSubscription_is_model {σ : Type} (fuel : Nat) (s : Gen.Server) (sess : Gen.Session σ)
    (asW : Gen.Session σ → GoRT.MsgWriter Gen.Message σ)
    (onS : Option (GoRT.ResW σ → Option GoRT.HttpReq → (List Bytes × Bool))) :
    Gen.Server_getSubscription fuel s sess asW onS =
      .ok (({ Client := asW sess, LastEventID := sess.LastEventID,
              Topics := (getSubscription none (onS.map fun f => f sess.Res sess.Req)).1.topics } : Gen.Subscription σ),
           (getSubscription none (onS.map fun f => f sess.Res sess.Req)).2, s, sess) :=
  GenEquiv.getSubscription_eq fuel s sess asW onS

end GoSSE.Props.C16
