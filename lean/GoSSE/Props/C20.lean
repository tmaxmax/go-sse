import GoSSE.Proofs.GenEquiv
import GoSSE.Proofs.GenEquivScan
import GoSSE.Proofs.ParserRange
import GoSSE.Proofs.ParserPulled
import GoSSE.Proofs.ParserRun
import GoSSE.Proofs.ParserFits
/-!
# C20 — parser memory is bounded by the configured maximum event size
-/
namespace GoSSE.Props.C20
open GoSSE GoSSE.Spec GoSSE.Model GoSSE.Proofs

/-- Every index `splitFunc` takes is in range, for every buffer content and both values of
`atEOF`: after the loop `start ≤ advance ≤ len(data)`; the returned advance is `≤ len(data)`; a
returned token is `data[start:advance]` with `start ≤ advance`, and it always comes with a
positive advance (so bufio's "too many empty tokens without progressing" panic cannot occur). -/
theorem split_indices_in_range (data : Bytes) (atEOF : Bool) :
    let loop := splitLoop data.length (data.length + 1) data 0 0
    let r := splitFunc data atEOF
    loop.2 ≤ loop.1 ∧ loop.1 ≤ data.length ∧ r.1 ≤ data.length ∧
    ∀ tok, r.2 = some tok → 0 < r.1 ∧ loop.2 ≤ r.1 ∧ tok = (data.take r.1).drop loop.2 := by
  intro loop r
  refine ⟨(splitFunc_loop_range data).1, (splitFunc_loop_range data).2, sf_adv_le data atEOF, ?_⟩
  intro tok h
  obtain ⟨h1, _, h3, h4⟩ := splitFunc_token_range data atEOF tok h
  exact ⟨h1, h3, h4⟩

/-- Inside the loop of `splitFunc`, from any state in which `rest = data[advance:]`: after the
step `rest' = data[advance':]` again, so `advance' ≤ len(data)` and the byte `data[advance']`
inspected by the exit test exists unless `advance' == len(data)` — which Go tests first. -/
theorem split_loop_step_in_range (len : Nat) (rest : Bytes) (adv : Nat) (h : adv + rest.length = len) :
    let r := newlineIndex rest
    adv + r.1 + r.2 + (rest.drop (r.1 + r.2)).length = len ∧
    (rest.drop (r.1 + r.2) = [] ↔ adv + r.1 + r.2 = len) :=
  splitLoop_step_range len rest adv h

/-- non-vacuity -/
example : (3 : Nat) + ([100, 10, 10] : Bytes).length = 6 := by decide

/-- Bytes requested from the reader never exceed the bytes consumed by completed tokens plus the
limit `L = limitOf cfg` (65536 by default, `max(max, cap buf)` when configured): for every scanner
state reachable from the initial one by `Scan` calls (`Reach … c s`: `c` = sum of the advances of
the tokens returned so far), and even across the next `Scan` call, whatever it returns. -/
theorem pulled_bounded (src : Source) (cfg : Option (Nat × Int)) (c : Nat) (s : Scanner)
    (h : Reach (mkScanner src cfg) c s) (fuel : Nat) :
    s.pulled ≤ c + limitOf cfg ∧ (Scanner.scan fuel s).2.pulled ≤ c + limitOf cfg :=
  ⟨reach_pulled_bounded src cfg c s h, reach_scan_pulled_bounded src cfg c s h fuel⟩

/-- non-vacuity: the initial scanner is reachable -/
example (src : Source) (cfg : Option (Nat × Int)) : Reach (mkScanner src cfg) 0 (mkScanner src cfg) := .init

/-- The scanner at the end of a whole run (`Read`/`Connection.read`, any early stop) is such a
reachable state, and `implRun` reports its counter: the run pulled at most `L` bytes more than
its completed tokens consumed, and never more than the source holds. -/
theorem run_pulled_bounded (conn : Bool) (lastID : Bytes) (src : Source) (cfg : Option (Nat × Int))
    (stopAt : Option Nat) :
    (∃ c, Reach (mkScanner src cfg) c (finalScanner conn lastID src cfg stopAt) ∧
      (implRun conn lastID src cfg stopAt).2.2 ≤ c + limitOf cfg) ∧
    (implRun conn lastID src cfg stopAt).2.2 ≤ (src.chunks.map List.length).sum :=
  ⟨implRun_pulled_bounded conn lastID src cfg stopAt, implRun_pulled_le_source conn lastID src cfg stopAt⟩

/-- An oversized event is never delivered truncated or partially parsed: in every run — in
particular one that ends in `ErrTooLong` — everything that was yielded is a prefix of what the
specification prescribes for the stream (complete, correctly parsed events only); by
`read_conforms_or_toolong` the prefix is proper only when the run ends in `ErrTooLong`. -/
theorem toolong_yields_no_partial_event (conn : Bool) (lastID : Bytes) (src : Source) (cfg : Option (Nat × Int)) :
    (implRun conn lastID src cfg none).1 <+:
      (Spec.run .gosse conn lastID src.chunks.flatten (if src.endErr then .err else .eof)).1 := by
  have a := implRun_conforms conn lastID src cfg
  simp only at a
  rcases a with ⟨_, hp⟩ | ⟨ho, _⟩
  · exact hp
  · rw [ho]; exact List.prefix_refl _

/-- non-vacuity: a run that does end in `ErrTooLong` (a 7-byte line against a 3-byte limit) -/
example : (implRun false [] { chunks := [[100, 97, 116, 97, 58, 120, 120]], endErr := false } (some (0, 3)) none).2.1 =
    PErr.tooLong := by decide

/-- **Below the limit everything is delivered intact.** `FitsLimit L s`: cut `s` at the event
boundaries (`pieceLen`: blank lines, the event's lines with their terminators, and the
terminator of its closing blank line); every complete piece is shorter than `L`, and the
unfinished remainder `R` has `|R| + 1 < L`. Then, for `L = limitOf cfg` (65536 by default,
`max(max, cap buf)` when configured), every segmentation, both end kinds and both entry points,
the run never ends in `ErrTooLong` and yields exactly the specification's events, retries and
end condition. -/
theorem fits_implies_complete (conn : Bool) (lastID : Bytes) (src : Source) (cfg : Option (Nat × Int))
    (hfit : FitsLimit (limitOf cfg) src.chunks.flatten) :
    let r := implRun conn lastID src cfg none
    let sp := Spec.run .gosse conn lastID src.chunks.flatten (if src.endErr then .err else .eof)
    r.2.1 ≠ PErr.tooLong ∧ r.1 = sp.1 ∧ r.2.1 = endErr conn sp.2 := by
  intro r sp
  have hno := fits_no_toolong conn lastID src cfg none hfit
  have a := implRun_conforms conn lastID src cfg
  simp only at a
  rcases a with ⟨e, _⟩ | ⟨ho, he⟩
  · exact absurd e hno
  · exact ⟨hno, ho, he⟩

/-- with an early stop, too, the limit is never hit -/
theorem fits_no_toolong_early_stop (conn : Bool) (lastID : Bytes) (src : Source) (cfg : Option (Nat × Int))
    (stopAt : Option Nat) (hfit : FitsLimit (limitOf cfg) src.chunks.flatten) :
    (implRun conn lastID src cfg stopAt).2.1 ≠ PErr.tooLong :=
  fits_no_toolong conn lastID src cfg stopAt hfit

/-- non-vacuity: "data:x\n\n" followed by the unfinished "id" fits a limit of 10 -/
example : FitsLimit 10 [100, 97, 116, 97, 58, 120, 10, 10, 105, 100] :=
  .piece _ 8 (by decide) (by decide) (.rest _ (by decide) (by decide))

/-- The slack byte in the remainder clause of `FitsLimit` is necessary: with `|R| < L` only
the claim fails. Stream "a\n\r\n" + 9 bytes, limit 10: the complete
piece has 4 bytes, the remainder 9 < 10, but cut as "a\n\r" | "\n" + 9 bytes the run ends in
`ErrTooLong` (the LF of the CRLF is still pending in front of the remainder), while the same
stream in one read is delivered (`ErrUnexpectedEOF`). -/
example :
    (implRun false [] { chunks := [[97, 10, 13], [10, 120, 120, 120, 120, 120, 120, 120, 120, 120]], endErr := false }
      (some (0, 10)) none).2.1 = PErr.tooLong ∧
    (implRun false [] { chunks := [[97, 10, 13, 10, 120, 120, 120, 120, 120, 120, 120, 120, 120]], endErr := false }
      (some (0, 10)) none).2.1 = PErr.unexpectedEOF ∧
    pieceLen [97, 10, 13, 10, 120, 120, 120, 120, 120, 120, 120, 120, 120] 0 = some 4 := by
  decide


/-- `splitFunc` *as translated from parser.go* — every index and slice expression checked, loops with fuel —
returns, for every buffer content and both values of `atEOF`, exactly what the model's `splitFunc` returns: it
never panics (no index or slice out of range), its loop ends within `len(data)+1` iterations, and its error
result is always nil. The index facts above (`split_indices_in_range`) therefore hold of the source text. -/
theorem translated_splitFunc_is_model (fuel : Nat) (data : Bytes) (atEOF : Bool) (hf : data.length < fuel) :
    Gen.splitFunc fuel data atEOF = .ok (((splitFunc data atEOF).1 : Int), (splitFunc data atEOF).2, none) :=
  GenEquiv.splitFunc_eq fuel data atEOF hf

/-- `(*bufio.Scanner).Scan` *as translated from the installed toolchain's bufio/scan.go* — the buffer management the
size limit of this property lives in: shift, grow up to `maxTokenSize`, `ErrTooLong`, the read loop, the final token at
EOF — with go-sse's translated `splitFunc` as its split function, does in one call exactly what the model's
`Scanner.scan` does (the function `pulled_bounded`, `fits_implies_complete` and C01's theorems are stated over): it
returns `true` exactly when the model yields a token, that token is in `s.token`, and the scanner afterwards stands
for the model's (`Rel`: pending bytes, buffer length, limit, reader, sticky error). It never panics — no slice
expression out of range, no "too many empty tokens" — and its loops end. Hypotheses: the sizes are below the fuel
and `maxInt/2`, and the reader never returns `0, nil` (`Bnd`). -/
theorem translated_bufio_Scan_is_model (F : Nat) (g : Gen.Scanner) (m : Scanner) (hR : GenEquiv.Rel F g m)
    (hB : GenEquiv.Bnd F m) (hI : SInv m) (hk : (if m.err.isSome then 1 else m.src.size + 2) ≤ F) :
    ∃ g', Gen.Scanner_Scan F g = .ok ((Scanner.scan F m).1.isSome, g') ∧ GenEquiv.Rel F g' (Scanner.scan F m).2 ∧
      (∀ t, (Scanner.scan F m).1 = some t → g'.token = some t.2) ∧ GenEquiv.Bnd F (Scanner.scan F m).2 :=
  GenEquiv.Scan_eq F g m hR hB hI hk

/-- the hypotheses hold of a scanner as `parser.New` (and `Parser.Buffer`) leave it, so the theorem applies to the
first call; it re-establishes them (`Rel`, `Bnd`; `SInv` by `scan_spec`), so it applies to every later call -/
theorem translated_bufio_initial (F : Nat) (src : Source) (buf : Bytes) (max : Int) :
    GenEquiv.Rel F (GenEquiv.newGenScanner F src buf max) (mkScanner src (some (buf.length, max))) ∧
    GenEquiv.Rel F (GenEquiv.newGenScanner F src [] 65536) (mkScanner src none) :=
  ⟨GenEquiv.rel_initial F src buf max, GenEquiv.rel_initial_default F src⟩

/-- non-vacuity: the translated function on "a\n\nb" (at EOF) yields the token "a\n\n" with advance 3 -/
example : Gen.splitFunc 7 [97, 10, 10, 98] true = .ok (3, some [97, 10, 10], none) := by rfl

end GoSSE.Props.C20
