import GoSSE.Proofs.GenEquivQueue
import GoSSE.Proofs.GenEquivReplay
import GoSSE.Proofs.QueueValid
/-!
# C09 — ValidReplayer replays exactly the unexpired events after the given ID

`VInv t v`: the queue is well formed, dead slots are zero, automatic IDs are consecutive,
expiries are non-decreasing along the stored entries and bounded by `t + ttl`, where `t` is the
latest instant the clock has shown. Every operation takes the current instant `now ≥ t`
(non-decreasing clock) and re-establishes `VInv now`. Holds for every TTL, every `GCInterval`
(`≤ 0`, below and above the TTL), both ID modes, every interleaving of Put/Replay/GC/clock steps.
-/
namespace GoSSE.Props.C09
open GoSSE GoSSE.Spec GoSSE.Model GoSSE.Proofs

/-- `NewValidReplayer` rejects `ttl ≤ 0`; otherwise the invariant holds and the state is empty. -/
theorem new_inv (ttl : Int) (auto : Bool) (g : Option Int) (t : Int) :
    (ttl ≤ 0 → newValid ttl auto g = none) ∧
    (0 < ttl → ∃ v, newValid ttl auto g = some v ∧ VInv t v ∧ vspec v = VState.init auto ∧ v.ttl = ttl ∧
      v.gcInterval = g.getD (Int.tdiv ttl 4)) := by
  constructor
  · intro h; simp [newValid, h]
  · intro h
    simp only [newValid, show ¬ ttl ≤ 0 from by omega, if_false]
    have habs : abs { buf := [], head := 0, tail := 0, count := 0 } = [] := abs_nil_of_count rfl
    refine ⟨_, rfl, ⟨wf_new 0, deadZero_new 0, AutoOK.empty _ rfl, ?_, ?_⟩, ?_, rfl, rfl⟩
    · rw [habs]; exact List.Pairwise.nil
    · rw [habs]; intro e he; simp at he
    · simp [vspec, habs, VState.init, State.init]

theorem putStore_refines (t : Int) (v1 : Valid) (hinv1 : VInv t v1) (now : Int) (hnow : t ≤ now)
    (msg : Nat) (id : EventID) (topics : List Bytes) (ht : ¬ topics.isEmpty = true) :
    ∃ r v', v1.putStore now msg id topics = .ok (r, v') ∧ VInv now v' ∧ v'.ttl = v1.ttl ∧
      v'.gcInterval = v1.gcInterval ∧ v'.lastGC = v1.lastGC ∧
      (r, ({ log := abs v'.messages, next := v'.currentID } : State)) =
        Spec.put none { log := abs v1.messages, next := v1.currentID } msg id topics (now + v1.ttl) := by
  unfold Valid.putStore
  simp only [ensureID_eq, Spec.put, ht, if_false, Bool.false_eq_true]
  cases ha : assignID v1.currentID id with
  | error e => exact ⟨_, _, rfl, hinv1.mono hnow, rfl, rfl, rfl, rfl⟩
  | ok p =>
    obtain ⟨id', cur'⟩ := p
    obtain ⟨q2, q3, hgrow, he, hw3, hd3, ha3⟩ := grow_enqueue_spec hinv1.wf hinv1.dead
      { msg := msg, id := id', topics := topics, exp := now + v1.ttl }
    have hauto := hinv1.auto.put ha msg topics (now + v1.ttl) (abs q3).length
    rw [← ha3, takeLast_all _ _ (Nat.le_refl _)] at hauto
    simp only [hgrow, he]
    exact ⟨_, _, rfl, hinv1.snoc hnow hw3 hd3 ha3 hauto rfl, rfl, rfl, rfl, by rw [ha3]⟩

/-- `Put` at instant `now` (clock non-decreasing: `t ≤ now`) never panics, preserves the
invariant — in particular expiries stay non-decreasing and `enqueue` never overwrites, the
buffer having been grown first — and refines the specification's `vput`: optional collection of
the expired prefix, then the ID-carrying copy with `exp = now + ttl` is appended; a Put rejected
for its ID changes nothing else. -/
theorem put_refines (t : Int) (v : Valid) (h : VInv t v) (now : Int) (hnow : t ≤ now)
    (msg : Nat) (id : EventID) (topics : List Bytes) :
    ∃ r v', v.put now msg id topics = .ok (r, v') ∧ VInv now v' ∧ v'.ttl = v.ttl ∧ v'.gcInterval = v.gcInterval ∧
      (r, vspec v') = vput v.ttl v.gcInterval (vspec v) now msg id topics := by
  -- `vspec` before `vput`: unfolded later it would stay inside the `Decidable` instances of `vput`'s `if`s, where `rw` does not see it
  unfold Valid.put vspec vput
  by_cases ht : topics.isEmpty = true
  · simp only [ht, if_true]
    exact ⟨_, _, rfl, h.mono hnow, rfl, rfl, rfl⟩
  · obtain ⟨v1, hg, hinv1, httl, hgci, hst, hlast⟩ := gcIfDue_spec h now
    obtain ⟨r, v', hp, hinv', e1, e2, e3, hs⟩ := putStore_refines t v1 hinv1 now hnow msg id topics ht
    simp only [ht, if_false, Bool.false_eq_true, hg]
    refine ⟨r, v', hp, hinv', e1.trans httl, e2.trans hgci, ?_⟩
    rw [← hst, ← hlast, ← httl, ← hs, e3]

/-- explicit `GC()` never panics, preserves the invariant and removes exactly the expired prefix:
`abs (doGC now q) = (abs q).dropWhile (exp ≤ now)` -/
theorem gc_refines (t : Int) (v : Valid) (h : VInv t v) (now : Int) (hnow : t ≤ now) :
    ∃ v', v.gc now = .ok v' ∧ VInv now v' ∧ v'.ttl = v.ttl ∧ v'.gcInterval = v.gcInterval ∧
      vspec v' = vgc (vspec v) now ∧
      abs v'.messages = (abs v.messages).dropWhile (fun e => decide (e.exp ≤ now)) := by
  obtain ⟨q', hg, hinv, ha⟩ := doGC_inv h now
  exact ⟨_, hg, hinv.mono hnow, rfl, rfl, by simp only [vspec, vgc, ha], ha⟩

/-- `gc_keeps_unexpired`: collection — explicit or triggered by `Put` — never drops an unexpired entry -/
theorem gc_keeps_unexpired (t : Int) (v : Valid) (h : VInv t v) (now : Int) (v' : Valid)
    (hg : v.doGC now = .ok v') : ∀ e ∈ abs v.messages, e.exp > now → e ∈ abs v'.messages := by
  obtain ⟨q', hg', _, ha⟩ := doGC_inv h now
  cases hg.symm.trans hg'
  rw [ha]
  exact gc_keeps now _

/-- `resize` (growing and shrinking; wrapped, full and empty buffers) preserves the stored entries -/
theorem resize_preserves_abs (q : Queue) (h : WF q) (hd : DeadZero q) (n : Nat) (hn : q.count < n) :
    ∃ q', q.resize n = .ok q' ∧ WF q' ∧ abs q' = abs q := by
  obtain ⟨q', hr, hw, _, ha, _, _⟩ := resize_abs h hd n hn
  exact ⟨q', hr, hw, ha⟩

/-- expiries are non-decreasing along the stored entries (part of the invariant) -/
theorem expiries_nondecreasing (t : Int) (v : Valid) (h : VInv t v) :
    List.Pairwise (fun a b : Entry => a.exp ≤ b.exp) (abs v.messages) := h.sorted

/-- `replay_refines`: `Replay` at instant `now` never panics and makes exactly the calls the
specification prescribes: sends = `((abs q).after id).filter (exp > now ∧ topics)`, in Put order,
cut at the first failing `Send`, then one `Flush` iff no `Send` failed; no call at all if nothing
stored follows the presented ID (newest, absent, unset). -/
theorem replay_refines (t : Int) (v : Valid) (h : VInv t v) (now : Int)
    (hcur : ∀ c, v.currentID = some c → c ≤ maxUint64 + 1) (sub : Sub) :
    v.replay now sub =
      .ok (replayOut v.currentID.isSome (fun e => decide (e.exp > now)) (abs v.messages) sub) :=
  replay_core h.wf _ rfl h.auto hcur sub fun e => decide (e.exp > now)

theorem serve_sends_subset (sub : Sub) (started : Bool) (sends : List Entry) (e : Entry)
    (h : Call.send e ∈ (serve sub started sends).calls) : e ∈ sends :=
  mem_of_send_mem_serve h

/-- `never_replayed_after_expiry`: an event is never sent at or after its Put time plus the TTL -/
theorem never_replayed_after_expiry (t : Int) (v : Valid) (h : VInv t v) (now : Int)
    (hcur : ∀ c, v.currentID = some c → c ≤ maxUint64 + 1) (sub : Sub) (out : ReplayOut)
    (hr : v.replay now sub = .ok out) (e : Entry) (he : Call.send e ∈ out.calls) : e.exp > now := by
  rw [replay_refines t v h now hcur sub] at hr
  cases hr
  have := serve_sends_subset _ _ _ e he
  simp only [replay, List.mem_filter, Bool.and_eq_true, decide_eq_true_eq] at this
  exact this.2.1


/-- non-vacuity and regression (fixed defect, commit 5493bb9): manual IDs, four Puts at instant 0
with TTL 10 (the buffer has grown to 4 slots and the write index has just wrapped). The newest ID
replays nothing; the oldest replays the other three while they are unexpired (instant 9) and
only flushes once they have expired (instant 10 = Put time + TTL). -/
example :
    let p (v : Valid) (k : Nat) (i : Byte) := match v.put 0 k (some [i]) [[97]] with | .ok (_, v') => v' | .panic => v
    let v := p (p (p (p ((newValid 10 false (some 0)).getD ⟨none, none, ⟨[], 0, 0, 0⟩, 0, 0⟩) 0 65) 1 66) 2 67) 3 68
    v.messages.tail = 0 ∧ v.messages.count = 4 ∧ v.messages.buf.length = 4 ∧
    v.replay 0 ⟨some [68], [[97]], none, false⟩ = .ok ⟨[], .nil⟩ ∧
    v.replay 9 ⟨some [65], [[97]], none, false⟩ =
      .ok ⟨[.send ⟨1, some [66], [[97]], 10⟩, .send ⟨2, some [67], [[97]], 10⟩, .send ⟨3, some [68], [[97]], 10⟩, .flush], .nil⟩ ∧
    v.replay 10 ⟨some [65], [[97]], none, false⟩ = .ok ⟨[.flush], .nil⟩ := by decide


/-- `queue[T].dequeue` and `queue[T].resize` *as translated from replay.go* (`make`, the two `copy` calls and the
three slice expressions checked operations) produce, from every queue state, exactly the state of the model's
functions (`resize_preserves_abs`, `gc_refines` above are about those), panicking exactly where the model does. -/
theorem translated_dequeue_is_model (fuel : Nat) (q : Queue) (hc : 0 < q.count) :
    GenEquiv.Agrees (Gen.queue_dequeue fuel (GenEquiv.toGen q)) (Queue.dequeue q) :=
  GenEquiv.dequeue_eq fuel q hc

theorem translated_resize_is_model (fuel : Nat) (q : Queue) (n : Nat) :
    GenEquiv.Agrees (Gen.queue_resize fuel (GenEquiv.toGen q) (n : Int)) (Queue.resize q n) :=
  GenEquiv.resize_eq fuel q n

/-- non-vacuity: the translated `resize` on a wrapped ring [c, _, a, b] (head 2, tail 1) growing to 6 slots -/
example :
    Gen.queue_resize 1 ({ buf := [some 3, none, some 1, some 2], head := 2, tail := 1, count := 3 } : Gen.queue (Option Nat)) 6
      = .ok { buf := [some 1, some 2, some 3, none, none, none], head := 0, tail := 3, count := 3 } := by rfl


/-! #### `ValidReplayer` itself, as translated

`GoSSE/Gen/Replay.lean` holds `ValidReplayer.shouldGC`, `doGC`, `GC`, `Put` and `Replay` as translated from
replay.go (with `ensureID`, `findIDInQueue`, `queue.each`, … — Props/C08). A model replayer `v` whose clock reads
`now` is `toGenValid mk now v`: `time.Time` values are nanoseconds since the zero Time (the model's `lastGC = none` is
that zero; `lastGC ≠ some 0` and `0 < now` say that the clock never shows it), `Now` is the constant computation
`now`, the slots are `gSlotV mk` (the zero slot ↦ the zero value, an entry ↦ its message, topics and expiry). -/

/-- `doGC(now)` as translated: the collection loop and the shrink, from every state -/
theorem translated_doGC_is_model (mk : Entry → Gen.Message) (now clock : Int) (hnow : 0 < now) (v : Valid) (fuel : Nat)
    (hf : v.messages.count < fuel) :
    GenEquiv.AgreesV (GenEquiv.toGenValid mk clock) (Gen.ValidReplayer_doGC fuel (GenEquiv.toGenValid mk clock v) now)
      (v.doGC now) :=
  GenEquiv.doGC_eq mk now clock hnow v fuel hf

/-- `GC()` as translated -/
theorem translated_GC_is_model (mk : Entry → Gen.Message) (now : Int) (hnow : 0 < now) (v : Valid) (fuel : Nat)
    (hf : v.messages.count < fuel) :
    GenEquiv.AgreesV (GenEquiv.toGenValid mk now) (Gen.ValidReplayer_GC fuel (GenEquiv.toGenValid mk now v)) (v.gc now) :=
  GenEquiv.GC_eq mk now hnow v fuel hf

/-- `ValidReplayer.Put` as translated: the collection schedule, `ensureID`, growth and the stored entry with
`exp = now + ttl` — the model's verdict, entry and next state, from every state -/
theorem translated_ValidPut_is_model (mk : Entry → Gen.Message) (now : Int) (hnow : 0 < now) (v : Valid)
    (hl : v.lastGC ≠ some 0) (k : Nat) (id : EventID) (topics : List Bytes) (m : Gen.Message)
    (hm : m.ID = GenEquiv.genID id)
    (hmk : ∀ id' ex, mk { msg := k, id := id', topics := topics, exp := ex } = { m with ID := GenEquiv.genID id' })
    (hc : ∀ c, v.currentID = some c → c + 1 < 18446744073709551616) (fuel : Nat)
    (hf : ∀ c, v.currentID = some c → (fmtUint c).length < fuel) (hfc : v.messages.count < fuel) :
    GenEquiv.PutAgrees mk (GenEquiv.toGenValid mk now) (v.put now k id topics)
      (Gen.ValidReplayer_Put fuel (GenEquiv.toGenValid mk now v) (some m) topics) :=
  GenEquiv.validPut_eq mk now hnow v hl k id topics m hm hmk hc fuel hf hfc

/-- `ValidReplayer.Replay` as translated, with the model's subscriber: only entries that expire after `now` are
sent, in the model's order; the model's error; the replayer unchanged -/
theorem translated_ValidReplay_is_model (mk : Entry → Gen.Message) (hmk : GenEquiv.CarriesID mk) (now : Int) (v : Valid)
    (sub : Sub) (fuel : Nat) (hf : v.messages.tail + v.messages.buf.length + 1 < fuel)
    (hcount : v.messages.count < 9223372036854775808) (hft : GenEquiv.TopicsFuel fuel v.messages.buf sub) :
    GenEquiv.ReplayAgrees mk sub (GenEquiv.toGenValid mk now v) (Valid.replay v now sub)
      (Gen.ValidReplayer_Replay fuel (GenEquiv.toGenValid mk now v) (GenEquiv.gSub sub [])) :=
  GenEquiv.validReplay_eq mk hmk now v sub fuel hf hcount hft

end GoSSE.Props.C09
