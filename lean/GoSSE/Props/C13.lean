import GoSSE.Proofs.ClientRegistry
import GoSSE.Proofs.GenEquivDispatch
import GoSSE.Proofs.GenEquivRegistry
/-!
# C13 — each event reaches exactly the callbacks subscribed to its type

Model: `Model/Registry.lean` (`addSubscriber`, `addSubscriberToAll`, remover closures, `dispatch`).
Specification: `Spec/Client.lean` (`SubState`: a flat list of live subscriptions, the `k`-th subscribe
operation has identity `k`). Scripts (`ROp`) interleave subscribe / subscribe-to-all / calling the
remover of the `k`-th subscription (any number of times, also stale) / dispatched events, in any order
and of any length.

Race freedom (the last clause of the property) is outside Lean: `checklib/p_client.py` checks the lock
discipline on the source text and the harness runs a concurrent variant under the race detector; that
clause is testing.
-/
namespace GoSSE.Props.C13
open GoSSE GoSSE.Spec GoSSE.Spec.Client GoSSE.Model GoSSE.Model.Client GoSSE.Proofs.ClientRegistry

/-- Ids are unique: the remover handed out by the `k`-th subscribe operation of any script captured
id `k`, so no two subscriptions ever share an id. -/
theorem ids_unique (ops : List ROp) (i j : Nat) (a b : Remover)
    (hi : (runScript ops).removers[i]? = some a) (hj : (runScript ops).removers[j]? = some b) (hne : i ≠ j) :
    a.id ≠ b.id := by
  have h := inv_run ops
  rw [h.ids i a hi, h.ids j b hj]; exact hne

/-- Exactly the right callbacks, each once: after any script, an event of type `t` is passed to a
permutation (map order is unspecified) of the live subscriptions whose filter is `t` or "all", and no
callback is invoked twice. -/
theorem dispatch_exact (ops : List ROp) (t : Bytes) :
    ((runScript ops).reg.dispatch t).Perm (((specScript ops).live.filter (matchesSub t)).map (·.1)) ∧
    ((runScript ops).reg.dispatch t).Nodup := by
  have h := inv_run ops
  exact ⟨h.dispatch_perm t, (h.dispatch_perm t).nodup_iff.mpr (nodup_filter h.nodup _)⟩

/-- The same for every event of the script: the model's log of invocations equals the specification's,
event by event, up to the order within one event. -/
theorem dispatch_exact_log (ops : List ROp) : LogsPerm (runScript ops).log (specScript ops).log :=
  log_rel_from ops {} {} inv_init LogsPerm.nil

/-- Removers are idempotent and local, for every registry (reachable or not) and every remover
(current, repeated or stale — e.g. after the same type was subscribed again): calling it twice is
calling it once, and for every event type the callbacks invoked other than the remover's own are
exactly the same as before, in the same order. -/
theorem remover_idempotent_and_local (r : Registry) (rm : Remover) :
    (r.remove rm).remove rm = r.remove rm ∧
    ∀ t, ((r.remove rm).dispatch t).filter (· != rm.id) = (r.dispatch t).filter (· != rm.id) := by
  refine ⟨remove_remove r rm, fun t => ?_⟩
  rw [dispatch_eq, dispatch_eq]
  cases rm with
  | all id => simp [typedIds_remove_all, all_remove_all, Remover.id, List.filter_filter]
  | typed t' id =>
    rw [all_remove_typed]
    by_cases ht : t = t'
    · subst ht; rw [typedIds_remove_typed_same]; simp [Remover.id, List.filter_filter]
    · rw [typedIds_remove_typed_other _ _ _ _ ht]

/-- After an unsubscribe function has returned, its callback is never invoked again, whatever the
script does afterwards (ids are never reused, so nothing can bring it back): once the remover of
subscription `k` was called, `k` is not among the callbacks any later event is passed to. (The second
disjunct only covers scripts that call a remover that does not exist yet.) -/
theorem removed_never_invoked (pre post : List ROp) (k : Nat) (t : Bytes) :
    k ∉ (runScript (pre ++ .unsub k :: post)).reg.dispatch t ∨ (runScript pre).removers[k]? = none := by
  cases hr : (runScript pre).removers[k]? with
  | none => exact Or.inr rfl
  | some rm =>
    refine Or.inl fun hmem => ?_
    obtain ⟨a, ha, hak⟩ := List.mem_map.mp ((dispatch_exact (pre ++ .unsub k :: post) t).1.subset hmem)
    have hk : k < (specScript pre).count := by
      rw [← (inv_run pre).len]
      exact (List.getElem?_eq_some_iff.mp hr).1
    have ha' : a ∈ (post.foldl SubState.step ((specScript pre).step (.unsub k))).live := by
      have := (List.mem_filter.mp ha).1
      rwa [specScript, List.foldl_append, List.foldl_cons] at this
    -- in the specification, `k` is not live after `unsub k`, and ids only grow
    exact not_live_run post ((specScript pre).step (.unsub k)) k hk (fun b hb => bne_iff_ne.mp (List.mem_filter.mp hb).2) a ha' hak

/-- Stream order: the `j`-th dispatched event of any script is the `j`-th entry of the log, delivered
to the callbacks registered at that moment; later operations never touch earlier entries. Hence every
callback sees the events it receives in stream order. -/
theorem stream_order (pre post : List ROp) (t : Bytes) :
    ∃ rest, (runScript (pre ++ .event t :: post)).log =
      (runScript pre).log ++ (runScript pre).reg.dispatch t :: rest := by
  simp only [runScript, List.foldl_append, List.foldl_cons]
  obtain ⟨rest, hr⟩ := foldl_step_append post ((List.foldl RegState.step {} pre).step (.event t))
  exact ⟨rest, by rw [hr, step_log, List.append_assoc]; rfl⟩

/-- non-vacuity: a stale remover called after the same type was subscribed again removes nothing else -/
example :
    (runScript [.sub [97], .unsub 0, .sub [97], .unsub 0, .subAll, .event [97], .event []]).log = [[1, 2], [2]] := by
  decide

/-! ### The registry as translated from client_connection.go

`Connection.addSubscriber`, `addSubscriberToAll`, the function literals they return (the removers: translated as
definitions over the variables they capture) and `dispatch` are translated from the source on every run
(`Gen/Reset.lean`). A callback is a number, a call through it an entry of the log the connection carries (`cblog`);
the visiting orders of `dispatch`'s two `range` statements are parameters — the theorems hold for **every** order.
A *reader's view* of the registry is `mapGet (typed c ty) k` (the callback registered for type `ty` under id `k`) and
`mapGet c.callbacksAll k`: whether an emptied inner map is dropped or kept makes no difference to it. -/

open GoSSE.GoRT GoSSE.GenEquiv in
/-- **`dispatch` as translated.** For every connection, event and pair of visiting orders the translated `dispatch` does
not fault, leaves the registry alone and appends to the call log exactly: one call per visited id registered for the
event's exact type, then one per visited id registered for all events — every one of them with this event. -/
theorem translated_dispatch (fuel : Nat) (c : Gen.Connection) (ev : Gen.Event) (order order2 : List Int)
    (hf : order.length < fuel) (hf2 : order2.length < fuel) :
    Gen.Connection_dispatch fuel c ev order order2 =
      .ok (logged c (callsOf (typed c ev.Type') order ev ++ callsOf c.callbacksAll order2 ev)) :=
  dispatch_eq fuel c ev order order2 hf hf2

open GoSSE.GoRT GoSSE.GenEquiv in
/-- **… and to no other.** Every call the translated `dispatch` makes carries the dispatched event and goes to a callback
that is registered, at that moment, for the event's exact type or for all events; a duplicate-free order makes exactly
as many calls as it visits registered ids (one each, `callsOf`), so with the orders Go produces — every key once — each
registration is served exactly once. -/
theorem translated_dispatch_only_subscribed (fuel : Nat) (c : Gen.Connection) (ev : Gen.Event) (order order2 : List Int)
    (hf : order.length < fuel) (hf2 : order2.length < fuel) :
    ∃ c', Gen.Connection_dispatch fuel c ev order order2 = .ok c' ∧
      c'.callbacks = c.callbacks ∧ c'.callbacksAll = c.callbacksAll ∧ c'.callbackID = c.callbackID ∧
      ∃ calls, c'.cblog = c.cblog ++ calls ∧
        (∀ x ∈ calls, x.2 = ev ∧
          ((∃ k ∈ order, mapGet (typed c ev.Type') k = some x.1) ∨ (∃ k ∈ order2, mapGet c.callbacksAll k = some x.1))) ∧
        calls.length = (order.filter fun k => (mapGet (typed c ev.Type') k).isSome).length +
                       (order2.filter fun k => (mapGet c.callbacksAll k).isSome).length := by
  refine ⟨_, dispatch_eq fuel c ev order order2 hf hf2, rfl, rfl, rfl, _, rfl, ?_, ?_⟩
  · intro x hx
    rcases List.mem_append.mp hx with h | h
    · have := mem_callsOf _ _ _ _ h
      exact ⟨this.1, Or.inl this.2⟩
    · have := mem_callsOf _ _ _ _ h
      exact ⟨this.1, Or.inr this.2⟩
  · rw [List.length_append, callsOf_length, callsOf_length]

open GoSSE.GoRT GoSSE.GenEquiv in
/-- **Subscribing as translated.** `addSubscriber event cb` does not fault; it hands back `(event, id)` — what the remover
captures — with `id` the counter's value, registers `cb` for `event` under `id`, changes nothing else a reader sees and
advances the counter. While every id in use is below the counter (`Fresh`, kept by every operation) the slot it takes
was free: a subscription never takes over or overwrites another one. -/
theorem translated_subscribe (fuel : Nat) (c : Gen.Connection) (event : Bytes) (cb : Nat) :
    Gen.Connection_addSubscriber fuel c event cb = .ok ((event, c.callbackID), afterSub c event cb) ∧
    mapGet (typed (afterSub c event cb) event) c.callbackID = some cb ∧
    (∀ ty k, ty ≠ event ∨ k ≠ c.callbackID → mapGet (typed (afterSub c event cb) ty) k = mapGet (typed c ty) k) ∧
    (afterSub c event cb).callbacksAll = c.callbacksAll ∧ (afterSub c event cb).cblog = c.cblog ∧
    (Fresh c → Fresh (afterSub c event cb) ∧ mapGet (typed c event) c.callbackID = none) :=
  ⟨addSubscriber_eq fuel c event cb, sub_self c event cb, fun ty k h => sub_other c event cb ty k h, rfl, rfl,
    fun h => ⟨sub_fresh c event cb h, sub_slot_free c event h⟩⟩

open GoSSE.GoRT GoSSE.GenEquiv in
theorem translated_subscribe_to_all (fuel : Nat) (c : Gen.Connection) (cb : Nat) :
    Gen.Connection_addSubscriberToAll fuel c cb = .ok (c.callbackID, afterSubAll c cb) ∧
    mapGet (afterSubAll c cb).callbacksAll c.callbackID = some cb ∧
    (∀ k, k ≠ c.callbackID → mapGet (afterSubAll c cb).callbacksAll k = mapGet c.callbacksAll k) ∧
    (afterSubAll c cb).callbacks = c.callbacks ∧ (afterSubAll c cb).cblog = c.cblog ∧
    (Fresh c → Fresh (afterSubAll c cb) ∧ mapGet c.callbacksAll c.callbackID = none) :=
  ⟨addSubscriberToAll_eq fuel c cb, subAll_self c cb, fun k h => subAll_other c cb k h, rfl, rfl,
    fun h => ⟨subAll_fresh c cb h, subAll_slot_free c h⟩⟩

open GoSSE.GoRT GoSSE.GenEquiv in
/-- **The removers as translated.** The function literal `addSubscriber` returns, run on what it captured, does not fault
and takes exactly its own registration out of a reader's view — whatever the registry looks like by then: every other
type and id reads as before, also when its type's inner map was emptied and dropped, when its type has since been
subscribed to again, and when it has been called before (the reader's view after a second call is that after the first:
calling it repeatedly is harmless and never affects other subscriptions). After it has run, a `dispatch` visits no
registration under its id (`translated_dispatch`: calls come from registered ids only). -/
theorem translated_remover_typed (fuel : Nat) (c : Gen.Connection) (event : Bytes) (id : Int) :
    Gen.Connection_removeFromType fuel c event id = .ok (afterUnsub c event id) ∧
    (∀ ty k, mapGet (typed (afterUnsub c event id) ty) k = if ty = event ∧ k = id then none else mapGet (typed c ty) k) ∧
    (∀ ty k, mapGet (typed (afterUnsub (afterUnsub c event id) event id) ty) k = mapGet (typed (afterUnsub c event id) ty) k) ∧
    (afterUnsub c event id).callbacksAll = c.callbacksAll ∧ (afterUnsub c event id).callbackID = c.callbackID ∧
    (Fresh c → Fresh (afterUnsub c event id)) := by
  refine ⟨removeFromType_eq fuel c event id, fun ty k => unsub_lookup c event id ty k, ?_, rfl, rfl, unsub_fresh c event id⟩
  intro ty k
  rw [unsub_lookup, unsub_lookup]
  by_cases h : ty = event ∧ k = id <;> simp [h]

open GoSSE.GoRT GoSSE.GenEquiv in
theorem translated_remover_all (fuel : Nat) (c : Gen.Connection) (id : Int) :
    Gen.Connection_removeFromAll fuel c id = .ok (afterUnsubAll c id) ∧
    (∀ k, mapGet (afterUnsubAll c id).callbacksAll k = if k = id then none else mapGet c.callbacksAll k) ∧
    (∀ k, mapGet (afterUnsubAll (afterUnsubAll c id) id).callbacksAll k = mapGet (afterUnsubAll c id).callbacksAll k) ∧
    (afterUnsubAll c id).callbacks = c.callbacks ∧ (afterUnsubAll c id).callbackID = c.callbackID ∧
    (Fresh c → Fresh (afterUnsubAll c id)) := by
  refine ⟨removeFromAll_eq fuel c id, fun k => unsubAll_lookup c id k, ?_, rfl, rfl, unsubAll_fresh c id⟩
  intro k
  rw [unsubAll_lookup, unsubAll_lookup]
  by_cases h : k = id <;> simp [h]

open GoSSE.GoRT GoSSE.GenEquiv in
/-- **The property, for the translated source, for every script.** Run any script of subscribe / subscribe-to-all /
remover calls (repeated, stale, of any earlier subscription) / dispatched events through the **translated** functions
(`runM`: `Gen.Connection_addSubscriber`, `…ToAll`, the two translated removers, `Gen.Connection_dispatch`, the callback of
the `k`-th subscribe operation being the number `k`), the two `range` statements of `dispatch` visiting their maps in any
order Go may produce (`Covers`: every key once). Then nothing faults, and

* every dispatched event was handed to a permutation of the specification's live subscriptions matching its type — each
  exactly once, nobody else (`LogsPerm … (specScript ops).log`);
* the registry a reader sees is exactly the specification's list of live subscriptions: the callback of the `j`-th
  subscribe operation sits under id `j` of its own type (or of the all-set) if and only if it is live — so a removed
  callback is in no slot any more (it is never invoked again), a remover that runs twice or after its type was
  subscribed to again touches nothing else, and ids are never reused. -/
theorem translated_scripts_refine_spec (ord : Orders) (hc : Covers ord) (ops : List ROp) :
    ∃ s : GState, runM ord ops GState.init = .ok s ∧
      GoSSE.Proofs.ClientRegistry.LogsPerm s.log (specScript ops).log ∧
      (∀ ty (k : Int) (cb : Nat), mapGet (typed s.conn ty) k = some cb ↔
        ∃ j : Nat, (j, some ty) ∈ (specScript ops).live ∧ k = (j : Int) ∧ cb = j) ∧
      (∀ (k : Int) (cb : Nat), mapGet s.conn.callbacksAll k = some cb ↔
        ∃ j : Nat, (j, none) ∈ (specScript ops).live ∧ k = (j : Int) ∧ cb = j) ∧
      s.conn.callbackID = ((specScript ops).count : Int) := by
  have h := run_refines ord hc ops
  exact ⟨_, runM_eq ord ops GState.init, h.2, h.1.typedSlots, h.1.allSlots, h.1.cnt⟩

/-- … and the hypothesis on the orders is satisfiable: the keys in list order, duplicates dropped -/
theorem covering_orders_exist : GenEquiv.Covers GenEquiv.canonOrders := GenEquiv.covers_canon

/-- non-vacuity of the script theorem: the stale-remover script of the example above, through the translated text with the
canonical orders, produces the specification's log itself -/
example :
    (GenEquiv.runM GenEquiv.canonOrders [.sub [97], .unsub 0, .sub [97], .unsub 0, .subAll, .event [97], .event []]
      GenEquiv.GState.init).map (·.log) = .ok [[1, 2], [2]] := by
  rfl

/-- non-vacuity, through the translated text itself: subscribe 7 to "a", 8 to all, 9 to "a"; unsubscribe the first (twice);
an event of type "a" visited in the order 2, 0, 1 is handed to 9 and then to 8 — and nobody else -/
example :
    let c0 : Gen.Connection := ⟨(), none, [], [], [], (), (), (), 0, false, []⟩
    let ev : Gen.Event := ⟨[], [97], [120]⟩
    (do let r1 ← Gen.Connection_addSubscriber 5 c0 [97] 7
        let r2 ← Gen.Connection_addSubscriberToAll 5 r1.2 8
        let r3 ← Gen.Connection_addSubscriber 5 r2.2 [97] 9
        let c4 ← Gen.Connection_removeFromType 5 r3.2 r1.1.1 r1.1.2
        let c5 ← Gen.Connection_removeFromType 5 c4 r1.1.1 r1.1.2
        let c6 ← Gen.Connection_dispatch 5 c5 ev [2, 0, 1] [2, 1, 0]
        pure (c6.cblog.map (·.1), c6.callbacks, c6.callbacksAll, c6.callbackID) : GoRT.GoM _) =
      .ok ([9, 8], [([97], [(2, 9)])], [(1, 8)], 3) := by
  intro c0 ev
  -- one evaluation per call, from the state the previous one left (a single `rfl` over the whole run is far slower)
  have h1 : Gen.Connection_addSubscriber 5 c0 [97] 7 =
      .ok (([97], 0), { c0 with callbacks := [([97], [(0, 7)])], callbackID := 1 }) := rfl
  have h2 : Gen.Connection_addSubscriberToAll 5 { c0 with callbacks := [([97], [(0, 7)])], callbackID := 1 } 8 =
      .ok (1, { c0 with callbacks := [([97], [(0, 7)])], callbacksAll := [(1, 8)], callbackID := 2 }) := rfl
  have h3 : Gen.Connection_addSubscriber 5
        { c0 with callbacks := [([97], [(0, 7)])], callbacksAll := [(1, 8)], callbackID := 2 } [97] 9 =
      .ok (([97], 2), { c0 with callbacks := [([97], [(0, 7), (2, 9)])], callbacksAll := [(1, 8)], callbackID := 3 }) := rfl
  have h4 : Gen.Connection_removeFromType 5
        { c0 with callbacks := [([97], [(0, 7), (2, 9)])], callbacksAll := [(1, 8)], callbackID := 3 } [97] 0 =
      .ok { c0 with callbacks := [([97], [(2, 9)])], callbacksAll := [(1, 8)], callbackID := 3 } := rfl
  have h5 : Gen.Connection_removeFromType 5
        { c0 with callbacks := [([97], [(2, 9)])], callbacksAll := [(1, 8)], callbackID := 3 } [97] 0 =
      .ok { c0 with callbacks := [([97], [(2, 9)])], callbacksAll := [(1, 8)], callbackID := 3 } := rfl
  have h6 : Gen.Connection_dispatch 5
        { c0 with callbacks := [([97], [(2, 9)])], callbacksAll := [(1, 8)], callbackID := 3 } ev [2, 0, 1] [2, 1, 0] =
      .ok { c0 with callbacks := [([97], [(2, 9)])], callbacksAll := [(1, 8)], callbackID := 3,
                    cblog := [(9, ev), (8, ev)] } := rfl
  simp only [h1, h2, h3, h4, h5, h6, bind, Except.bind]
  rfl

end GoSSE.Props.C13
