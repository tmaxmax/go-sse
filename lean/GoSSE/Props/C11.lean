import GoSSE.Proofs.ClientConnect
import GoSSE.Proofs.ClientRead
/-!
# C11 — Connect returns only for a reason

Model: `Parser.err` precedence and `read`'s final yield (`implRun`, `Model/Parser.lean`), `doConnect`'s
classification with the `errors.Is(err, ctx.Err())` shapes — including `errors.Is(nil, nil) = true` —
and the `Connect` loop over a history of attempt outcomes, cancellation instants and `select` choices
(`Model/Connection.lean`). The fuel-sufficiency argument behind `read_conn_never_nil` is in
`Proofs/ClientRead.lean`.

Reading of "context done ⇒ its error" (recorded in the check's assumptions): the context's error is
returned when the attempt's own error *is* the context's error, or when the cancellation is seen at the
wait; an attempt failing for an independent reason while the context is being cancelled is classified by
its own error.
-/
namespace GoSSE.Props.C11
open GoSSE GoSSE.Spec GoSSE.Spec.Client GoSSE.Model GoSSE.Model.Client GoSSE.Proofs.ClientBackoff GoSSE.Proofs.ClientConnect GoSSE.Proofs.ClientRead

/-- The connection's read never ends without an error: for every byte source (any chunking, any
ending), every starting ID and every buffer configuration, the error yielded at the end is not `nil`. -/
theorem read_conn_never_nil (lastID : Bytes) (src : Source) (cfg : Option (Nat × Int)) :
    (implRun true lastID src cfg none).2.1 ≠ PErr.none :=
  implRun_conn_ne_none lastID src cfg

theorem strErr_ne_nil (c : Conn) (src : Source) (ic : Bool) : strErr c src ic ≠ .nil := by
  have hne := implRun_conn_ne_none c.lastEventID src c.buf
  unfold strErr
  revert hne
  cases (implRun true c.lastEventID src c.buf).2.1 <;> simp [readErr]
  cases ic <;> simp

/-- `errors.Is(e, ctx.Err())` for an error `e` that is not `nil`: `e` is the context's error and the context is done -/
theorem errorsIs_ctxErr (e : ErrV) (d : Bool) (hn : e ≠ .nil) : errorsIs e (ctxErr d) = true ↔ e = .ctx ∧ d = true := by
  cases d <;> simp [errorsIs, ctxErr, hn]

/-- The complete table of one attempt (`doConnect`): what is returned, and whether `Connect` goes on.
* body reset fails → `ConnectionError{reset, e}`, stop;
* `Do` fails with the context's error while the context is done → that error as is, stop;
  any other `Do` failure → `ConnectionError{conn, e}`, retry;
* validator rejects → `ConnectionError{validation}`, stop;
* stream: the read error `e` (never `nil`); `e` is the context's error while the context is done → `e` as
  is, stop; otherwise `ConnectionError{lost, e}`, retry. -/
theorem attempt_table (cfg : Cfg) (c : Conn) (ctl : Ctl) (a : Attempt) (done : Bool) :
    let r := doConnect cfg c ctl a done
    let d := done || a.cancelDuring
    (∀ e, (resetRequest c).2 = some e → r.shouldRetry = false ∧ r.err = .wrapped .resetFailed e) ∧
    ((resetRequest c).2 = none →
      (∀ isCtx, a.out = .transport isCtx →
        (isCtx = true ∧ d = true → r.shouldRetry = false ∧ r.err = .bare .ctx) ∧
        (¬ (isCtx = true ∧ d = true) → r.shouldRetry = true ∧ r.err = .wrapped .connFailed (trErr isCtx))) ∧
      (a.out = .rejected → r.shouldRetry = false ∧ r.err = .wrapped .validation .validator) ∧
      (∀ src ic, a.out = .stream src ic →
        strErr (resetRequest c).1 src ic ≠ .nil ∧
        (strErr (resetRequest c).1 src ic = .ctx ∧ d = true → r.shouldRetry = false ∧ r.err = .bare .ctx) ∧
        (¬ (strErr (resetRequest c).1 src ic = .ctx ∧ d = true) →
          r.shouldRetry = true ∧ r.err = .wrapped .lost (strErr (resetRequest c).1 src ic)))) := by
  intro r d
  refine ⟨fun e he => ?_, fun hr => ⟨fun isCtx ho => ?_, fun ho => ?_, fun src ic ho => ?_⟩⟩
  · simp only [r, doConnect_resetFailed cfg c ctl a done e he, and_self]
  · have hi := errorsIs_ctxErr (trErr isCtx) d (by cases isCtx <;> simp [trErr])
    have hc : trErr isCtx = .ctx ↔ isCtx = true := by cases isCtx <;> simp [trErr]
    rw [hc] at hi
    simp only [r, doConnect_transport cfg c ctl a done _ isCtx (Prod.ext rfl hr) ho]
    refine ⟨fun h => ?_, fun h => ?_⟩
    · rw [if_pos (hi.mpr h), hc.mpr h.1]; exact ⟨rfl, rfl⟩
    · rw [if_neg (mt hi.mp h)]; exact ⟨rfl, rfl⟩
  · simp only [r, doConnect_rejected cfg c ctl a done _ (Prod.ext rfl hr) ho, and_self]
  · have hi := errorsIs_ctxErr _ d (strErr_ne_nil (resetRequest c).1 src ic)
    simp only [r, doConnect_stream cfg c ctl a done _ src ic (Prod.ext rfl hr) ho]
    refine ⟨strErr_ne_nil _ src ic, fun h => ?_, fun h => ?_⟩
    · rw [if_pos (hi.mpr h)]; exact ⟨rfl, congrArg Res.bare h.1⟩
    · rw [if_neg (mt hi.mp h)]; exact ⟨rfl, rfl⟩

/-- The table read by outcome: an attempt ends `Connect` with the reset error, the context's error (the context being
done by then) or the validator's; or it is to be retried and has failed with an error that is not `nil`. -/
theorem attempt_outcome (cfg : Cfg) (c : Conn) (ctl : Ctl) (a : Attempt) (done : Bool) :
    (∃ e, (resetRequest c).2 = some e ∧ (doConnect cfg c ctl a done).err = .wrapped .resetFailed e) ∨
    ((doConnect cfg c ctl a done).err = .bare .ctx ∧ (done || a.cancelDuring) = true) ∨
    (doConnect cfg c ctl a done).err = .wrapped .validation .validator ∨
    ((doConnect cfg c ctl a done).shouldRetry = true ∧ ∃ e, e ≠ .nil ∧
      ((doConnect cfg c ctl a done).err = .wrapped .connFailed e ∨ (doConnect cfg c ctl a done).err = .wrapped .lost e)) := by
  obtain ⟨t1, t2⟩ := attempt_table cfg c ctl a done
  cases hr : (resetRequest c).2 with
  | some e => exact Or.inl ⟨e, rfl, (t1 e hr).2⟩
  | none =>
    obtain ⟨tt, tr, ts⟩ := t2 hr
    cases ho : a.out with
    | transport isCtx =>
      by_cases hcd : isCtx = true ∧ (done || a.cancelDuring) = true
      · exact Or.inr (Or.inl ⟨((tt isCtx ho).1 hcd).2, hcd.2⟩)
      · obtain ⟨h1, h2⟩ := (tt isCtx ho).2 hcd
        exact Or.inr (Or.inr (Or.inr ⟨h1, _, by cases isCtx <;> simp [trErr], Or.inl h2⟩))
    | rejected => exact Or.inr (Or.inr (Or.inl (tr ho).2))
    | stream src ic =>
      obtain ⟨hn, s1, s2⟩ := ts src ic ho
      by_cases hcd : strErr (resetRequest c).1 src ic = .ctx ∧ (done || a.cancelDuring) = true
      · exact Or.inr (Or.inl ⟨(s1 hcd).2, hcd.2⟩)
      · obtain ⟨h1, h2⟩ := s2 hcd
        exact Or.inr (Or.inr (Or.inr ⟨h1, _, hn, Or.inr h2⟩))

/-- A single attempt never yields `nil`: the `errors.Is(nil, nil)` shape of `doConnect` is unreachable. -/
theorem attempt_never_nil (cfg : Cfg) (c : Conn) (ctl : Ctl) (a : Attempt) (done : Bool) :
    (doConnect cfg c ctl a done).err ≠ .bare .nil := by
  intro h
  rcases attempt_outcome cfg c ctl a done with ⟨e, _, h1⟩ | ⟨h1, _⟩ | h1 | ⟨_, e, _, h1 | h1⟩ <;>
    exact nomatch h.symm.trans h1

/-- What `Connect` can return, for every history (result table). The result, if the run ends within the
history, is one of:
1. the bare context error — and then the context was cancelled at some instant (before `Connect`, during
   an attempt, in `OnRetry` or during a wait);
2. `ConnectionError{reset, e}` with `e` = `ErrNoGetBody` or `GetBody`'s own error;
3. `ConnectionError{validation, validator's error}`;
4. the last attempt's error `e ≠ nil` wrapped as `ConnectionError{conn | lost, e}` — and then the back-off
   controller refused another retry (retries exhausted or `MaxElapsedTime` would be exceeded). -/
theorem connect_result_table (cfg : Cfg) (fl : Floats) (h : List Attempt) (c : Conn) (ctl : Ctl) (done : Bool) (res : Res)
    (hres : (connectLoop cfg fl h c ctl done).result = some res) :
    (res = .bare .ctx ∧ (done = true ∨ ∃ a ∈ h, a.cancelDuring = true ∨ a.cancelAfter = true)) ∨
    (∃ e, res = .wrapped .resetFailed e ∧ (e = .noGetBody ∨ e = .getBody)) ∨
    res = .wrapped .validation .validator ∨
    (∃ e, (res = .wrapped .connFailed e ∨ res = .wrapped .lost e) ∧ e ≠ .nil ∧
      ∃ ctl' now draw, (Ctl.next cfg fl ctl' now draw).2 = none) := by
  induction h generalizing c ctl done with
  | nil => cases hres
  | cons a rest ih =>
    rcases connectLoop_cases cfg fl a rest c ctl done _ rfl with ⟨hd, h1⟩ | ⟨hlast, h1⟩ | ⟨w, q, _, _, hq, h1⟩
    · rw [h1] at hres
      exact Or.inl ⟨(Option.some.inj hres).symm, Or.inl hd⟩
    · -- the attempt is the last one: classify its error
      rw [h1] at hres
      cases Option.some.inj hres
      rcases attempt_outcome cfg c ctl a done with ⟨e, he, h2⟩ | ⟨h2, hd⟩ | h2 | ⟨hs, e, hne, h2⟩
      · exact Or.inr (Or.inl ⟨e, h2, resetRequest_err_kinds c e he⟩)
      · refine Or.inl ⟨h2, ?_⟩
        rcases (Bool.or_eq_true _ _ ▸ hd) with hd | hd
        · exact Or.inl hd
        · exact Or.inr ⟨a, List.mem_cons_self, Or.inl hd⟩
      · exact Or.inr (Or.inr (Or.inl h2))
      · rcases hlast with hn | hn
        · rw [hs] at hn; cases hn
        · exact Or.inr (Or.inr (Or.inr ⟨e, h2, hne, _, _, _, hn⟩))
    · -- the run continues: a cancellation seen later may have happened during or after this attempt
      rw [h1, ← hq] at hres
      rcases ih _ _ _ hres with ⟨h2, hd | ⟨b, hb, hd⟩⟩ | h2
      · refine Or.inl ⟨h2, ?_⟩
        simp only [Bool.or_eq_true] at hd
        rcases hd with (hd | hd) | hd
        · exact Or.inl hd
        · exact Or.inr ⟨a, List.mem_cons_self, Or.inl hd⟩
        · exact Or.inr ⟨a, List.mem_cons_self, Or.inr hd⟩
      · exact Or.inl ⟨h2, Or.inr ⟨b, List.mem_cons_of_mem _ hb, hd⟩⟩
      · exact Or.inr h2

/-- `Connect` never returns `nil`: for every history of attempt outcomes, every cancellation pattern,
every `select` oracle, every configuration, clock and draws. -/
theorem connect_never_nil (cfg : Cfg) (fl : Floats) (h : List Attempt) (c : Conn) (ctl : Ctl) (done : Bool) :
    (connectLoop cfg fl h c ctl done).result ≠ some (.bare .nil) := by
  intro hres
  rcases connect_result_table cfg fl h c ctl done _ hres with ⟨h1, _⟩ | ⟨e, h1, _⟩ | h1 | ⟨e, h1 | h1, _⟩ <;> cases h1

/-- Permanent errors end `Connect` at once, without a retry: if the validator rejects the response of
an attempt that is made, the run ends with that attempt — result `ConnectionError{validation}`, no
`retry` item after it. -/
theorem rejection_is_immediate (cfg : Cfg) (fl : Floats) (a : Attempt) (rest : List Attempt) (c : Conn) (ctl : Ctl) (done : Bool)
    (hsel : (done && !a.timerWins) = false) (hr : (resetRequest c).2 = none) (ho : a.out = .rejected) :
    (connectLoop cfg fl (a :: rest) c ctl done).result = some (.wrapped .validation .validator) ∧
    (connectLoop cfg fl (a :: rest) c ctl done).trace = [attOf (resetRequest c).1] := by
  rw [connectLoop_cons cfg fl a rest c ctl done _ (doConnect_rejected cfg c ctl a done _ (Prod.ext rfl hr) ho)]
  simp [hsel]

/-- Cancellation that interrupts a partially received line is reported as the context's error: if the
body reader ends with the context's error (the reader's error is the context's, the context is done),
then — whatever bytes were received, also in mid-line, unless the token limit was hit first — the
attempt ends `Connect` with the bare context error. -/
theorem cancel_midline_is_ctx (cfg : Cfg) (fl : Floats) (a : Attempt) (rest : List Attempt) (c : Conn) (ctl : Ctl) (done : Bool)
    (src : Source) (hsel : (done && !a.timerWins) = false) (hr : (resetRequest c).2 = none)
    (ho : a.out = .stream src true) (hend : src.endErr = true) (hd : (done || a.cancelDuring) = true)
    (hlim : (implRun true (resetRequest c).1.lastEventID src (resetRequest c).1.buf).2.1 ≠ .tooLong) :
    (connectLoop cfg fl (a :: rest) c ctl done).result = some (.bare .ctx) := by
  have hre := implRun_read_error true (resetRequest c).1.lastEventID src (resetRequest c).1.buf hend
  have hread : (implRun true (resetRequest c).1.lastEventID src (resetRequest c).1.buf).2.1 = .read := by
    rcases hre with h | h
    · exact h
    · exact absurd h hlim
  -- the reader's error is the context's and the context is done: `errors.Is(err, ctx.Err())` holds, the attempt is the last
  have hctx : strErr (resetRequest c).1 src true = .ctx := by rw [strErr, hread]; rfl
  have his := (errorsIs_ctxErr _ _ (strErr_ne_nil _ src true)).mpr ⟨hctx, hd⟩
  rw [connectLoop_cons cfg fl a rest c ctl done _ (doConnect_stream cfg c ctl a done _ src true (Prod.ext rfl hr) ho),
    if_pos his, hsel, hctx]
  rfl

/-- A read error is reported as itself, by `Read` and by `Connect`'s reader: if the byte source ends
with an error, the error yielded is that read error (or `ErrTooLong`, if the token limit was hit
before) — never `ErrUnexpectedEOF`, never `io.EOF`, never nothing. -/
theorem read_error_reported_as_itself (conn : Bool) (lastID : Bytes) (src : Source) (cfg : Option (Nat × Int))
    (h : src.endErr = true) :
    (implRun conn lastID src cfg none).2.1 = .read ∨ (implRun conn lastID src cfg none).2.1 = .tooLong :=
  implRun_read_error conn lastID src cfg h

/-- `ErrUnexpectedEOF` is reported only when the stream really ended cleanly in mid-line.
Model: it is only reported when the byte source ended with `io.EOF`. Specification: `Spec.run` reports it
iff the source ended cleanly and the last line is unterminated (the tie between `implRun` and `Spec.run`
on end conditions is C01). -/
theorem ueof_iff_clean_midline :
    (∀ (conn : Bool) (lastID : Bytes) (src : Source) (cfg : Option (Nat × Int)),
      (implRun conn lastID src cfg none).2.1 = .unexpectedEOF → src.endErr = false) ∧
    (∀ (m : Mode) (conn : Bool) (lastID s : Bytes) (ek : EndKind),
      (run m conn lastID s ek).2 = .unexpectedEOF ↔ (ek = .eof ∧ (splitLines (stripBOM s) [] false).2 ≠ [])) := by
  refine ⟨implRun_ueof_clean, ?_⟩
  intro m conn lastID s ek
  unfold run
  cases ek with
  | err => simp
  | eof =>
    simp only [true_and]
    by_cases h : (splitLines (stripBOM s) [] false).2 = []
    · simp [h]; split <;> simp
    · simp [h]

/-- non-vacuity: a body of just "\n" — `Connect` retries (the fixed defect: it used to return `nil`) -/
example :
    (connect { initialInterval := 5 } (exactFloats 1 1 0 1)
      { req := { header := none, body := .none, getBody := .absent } } 0 false
      [{ out := .stream { chunks := [[10]], endErr := false } false }]).trace.length = 3 := by
  decide

end GoSSE.Props.C11
