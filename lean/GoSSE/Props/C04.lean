import GoSSE.Proofs.JoeResume
import GoSSE.Props.C03
/-!
# C04 — resuming with Last-Event-ID yields exactly the missed events, then live ones

Runs of Joe with a conforming replayer (`Conforming`, `ReachableC`: every Put is accepted and
stored, possibly evicting oldest entries; every Replay sends exactly the stored publications after
the presented one that match the topics — what C08/C09 prove of the two real replayers). Replay and
registration are one transition of the loop, so no publication can fall between them.
-/
namespace GoSSE.Props.C04
open GoSSE.Model.Joe GoSSE.Proofs.Joe

/-- **Exactly the missed events, then the live ones, no gap, no duplicate, in publish order.**
If subscription `i` presented the ID of publication `k` and `k` was still held by the replayer when the
loop accepted the subscription, then — whenever Joe is idle — everything ever sent to `i` (replayed,
then live) is exactly the part of the publication log after `k`, up to the end of `i`'s window,
filtered by `i`'s topics. -/
theorem resume_exact {c : Cfg} {s : St} (h : ReachableC c s) (hj : s.joe = .idle ∨ s.joe = .exited)
    (i : SubId) (a : Nat) (k : PubId) (hr : (s.subs i).regAt = some a) (hk : c.subLast i = some k)
    (hst : k ∈ (s.subs i).storeAt) :
    ∃ m, s.log[m]? = some k ∧ m < a ∧
      pubsOf (s.subs i).calls =
        ((s.log.take ((s.subs i).endAt.getD s.log.length)).drop (m + 1)).filter (matchesP c i) := by
  have hre := h.reachable
  have hall := reachable_all hre
  have hri := reachableC_rinv h
  -- the store at acceptance time is a piece of the log, which has no duplicates
  obtain ⟨n, hn, hsa⟩ := hri.storeAt i a hr
  obtain ⟨hale, hb⟩ := hall.2.1.bounds i a hr
  obtain ⟨m, hget, hlt, hafter⟩ := afterID_window hall.2.2.logNodup a n (hsa ▸ hst)
  refine ⟨m, hget, hlt, ?_⟩
  have hb' : a ≤ (s.subs i).endAt.getD s.log.length := by
    cases he : (s.subs i).endAt with
    | none => simpa using hale
    | some b => simpa using (hb b he).1
  rw [pubsOf_calls, hri.replayed i a hr, C03.delivery_exact_idle hre hj i, hr]
  simp only [replaySends, hk, hsa, hafter]
  rw [take_drop_split s.log (m + 1) a _ hlt hb', List.filter_append]

/-- non-vacuity of `resume_exact`: two publications, then a subscription presenting the ID of the first
one is replayed the second one; all hypotheses hold in the resulting (reachable, conforming) state -/
example : ∃ (c : Cfg) (s : St), ReachableC c s ∧ s.joe = .idle ∧ (s.subs 0).regAt = some 2 ∧ c.subLast 0 = some 0 ∧
    0 ∈ (s.subs 0).storeAt ∧ pubsOf (s.subs 0).calls = [1] := by
  let c : Cfg := { subTopics := fun _ => [0], pubTopics := fun _ => [0], subLast := fun _ => some 0 }
  let ls : List Label := [.pubCall 0, .pubAccept 0 (.ok 0), .fanDone, .pubRecv 0, .pubCall 1, .pubAccept 1 (.ok 0), .fanDone,
    .subCall 0, .subAccept 0 [.send 1 true, .flush true] .ok]
  have h0 : ReachableC c (GoSSE.Model.Joe.init true) :=
    ReachableC.init (isInit_init true) rfl
  have hrun : ((runC c (GoSSE.Model.Joe.init true) ls).map fun t =>
      (decide (t.joe = .idle) && decide ((t.subs 0).regAt = some 2) && decide (0 ∈ (t.subs 0).storeAt) &&
        decide (pubsOf (t.subs 0).calls = [1]))) = some true := by decide
  match hr : runC c (GoSSE.Model.Joe.init true) ls with
  | some s =>
    rw [hr] at hrun
    simp only [Option.map_some, Option.some.injEq, Bool.and_eq_true, decide_eq_true_eq] at hrun
    exact ⟨c, s, runC_reachable h0 hr, hrun.1.1.1, hrun.1.1.2, rfl, hrun.1.2, hrun.2⟩
  | none => rw [hr] at hrun; cases hrun

/-- **Presenting the newest ID replays nothing** (conforming replayer): the stored publications after
the newest stored one are none. -/
theorem newest_replays_nothing (c : Cfg) (pre : List PubId) (k : PubId) (i : SubId) (hk : c.subLast i = some k)
    (hn : k ∉ pre) : replaySends c (pre ++ [k]) i = [] := by
  simp [replaySends, hk, afterID_decomp pre [] k hn]

/-- **A never-issued (or evicted) ID replays nothing** — and live delivery proceeds: by
`C03.delivery_exact` the subscription receives every matching publication accepted after its registration. -/
theorem unknown_id_replays_nothing (c : Cfg) (store : List PubId) (k : PubId) (i : SubId) (hk : c.subLast i = some k)
    (hn : k ∉ store) : replaySends c store i = [] := by
  simp [replaySends, hk, afterID_absent store k hn]

theorem unknown_id_live_only {c : Cfg} {s : St} (h : ReachableC c s) (hj : s.joe = .idle ∨ s.joe = .exited)
    (i : SubId) (a : Nat) (k : PubId) (hr : (s.subs i).regAt = some a) (hk : c.subLast i = some k)
    (hst : k ∉ (s.subs i).storeAt) :
    pubsOf (s.subs i).calls =
      ((s.log.take ((s.subs i).endAt.getD s.log.length)).drop a).filter (matchesP c i) := by
  have hri := reachableC_rinv h
  rw [pubsOf_calls, hri.replayed i a hr, unknown_id_replays_nothing c _ k i hk hst,
    C03.delivery_exact_idle h.reachable hj i, hr]
  simp

/-- an unset Last-Event-ID replays nothing -/
theorem unset_id_replays_nothing (c : Cfg) (store : List PubId) (i : SubId) (hk : c.subLast i = none) :
    replaySends c store i = [] := by
  simp [replaySends, hk]

end GoSSE.Props.C04
