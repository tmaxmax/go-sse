import GoSSE.Proofs.JoeMore
import GoSSE.Proofs.GenEquivServer
import GoSSE.Proofs.GenEquivJoeFanout
/-!
# C03 — Joe delivers each message exactly once, in order, to matching subscribers

All statements are about every reachable state of `GoSSE.Model.Joe`, i.e. every interleaving.
`log` is the order in which Joe's loop accepted the Publish calls — the single linearisation.
-/
namespace GoSSE.Props.C03
open GoSSE.Model.Joe GoSSE.Proofs.Joe

/-- **Exactly once, in order, only to matching registered subscribers.** In every reachable state,
the publications sent live to subscription `i` — followed by the one being fanned out right now if
`i` is still to be visited — are exactly the publications of `i`'s registration window of the log
(from its registration to its removal, or to now) whose topics intersect `i`'s, in log order. -/
theorem delivery_exact {c : Cfg} {s : St} (h : Reachable c s) (i : SubId) :
    livePubs (s.subs i) ++ pendingFor s i = expected c s i :=
  (reachable_dinv h).2.main i

/-- Whenever Joe is idle (or has exited) nothing is pending: what was sent is exactly the window. -/
theorem delivery_exact_idle {c : Cfg} {s : St} (h : Reachable c s) (hj : s.joe = .idle ∨ s.joe = .exited) (i : SubId) :
    livePubs (s.subs i) =
      match (s.subs i).regAt with
      | none => []
      | some a => ((s.log.take ((s.subs i).endAt.getD s.log.length)).drop a).filter (matchesP c i) := by
  have := delivery_exact h i
  have hp : pendingFor s i = [] := by rcases hj with e | e <;> exact pendingFor_none (by rw [e]; rfl) i
  rw [hp, List.append_nil] at this
  rw [this]; simp only [expected, window]
  cases (s.subs i).regAt <;> simp

/-- Nothing is ever sent live to a subscription the loop has not registered. -/
theorem nothing_unless_registered {c : Cfg} {s : St} (h : Reachable c s) (i : SubId)
    (hr : (s.subs i).regAt = none) : livePubs (s.subs i) = [] := by
  have := delivery_exact h i
  simp only [expected, window, hr, List.filter_nil, List.append_eq_nil_iff] at this
  exact this.1

/-- **One order for everybody**: what any subscription was sent is a sub-sequence of the log, so any
two subscribers see the messages they both receive in the same relative order — the order in which
Joe serialised the Publish calls. -/
theorem single_order {c : Cfg} {s : St} (h : Reachable c s) (i : SubId) :
    (livePubs (s.subs i)).Sublist s.log := by
  have hsub : (expected c s i).Sublist s.log := by
    simp only [expected, window]
    cases (s.subs i).regAt with
    | none => simp
    | some a =>
      exact (List.filter_sublist).trans ((List.drop_sublist _ _).trans (List.take_sublist _ _))
  have := delivery_exact h i
  exact (List.sublist_append_left _ _).trans (this ▸ hsub)

/-- Only publications matching the subscription's topics are sent. -/
theorem only_matching {c : Cfg} {s : St} (h : Reachable c s) (i : SubId) (p : PubId)
    (hp : p ∈ livePubs (s.subs i)) : matchesP c i p = true := by
  have := delivery_exact h i
  have hm : p ∈ expected c s i := by rw [← this]; exact List.mem_append_left _ hp
  exact (List.mem_filter.mp hm).2

/-- **Never twice**, however many topics match: every Publish call is accepted at most once, and a
subscription is sent each publication at most once. -/
theorem never_twice {c : Cfg} {s : St} (h : Reachable c s) (i : SubId) : (livePubs (s.subs i)).Nodup :=
  List.Nodup.sublist (single_order h i) (reachable_all h).2.2.logNodup

/-- **Nothing published while registered is skipped**: a subscription that is still registered
(its window has not ended) has, whenever Joe is idle, been sent every matching publication accepted
since its registration. Unsubscription (after a cancellation) is processed only when Joe is idle, so
every message whose Publish was accepted before that moment — in particular before the cancellation
was requested — is part of the window. -/
theorem registered_gets_everything {c : Cfg} {s : St} (h : Reachable c s) (hj : s.joe = .idle) (i : SubId) (a : Nat)
    (hr : (s.subs i).regAt = some a) (he : (s.subs i).endAt = none) :
    livePubs (s.subs i) = (s.log.drop a).filter (matchesP c i) := by
  have := delivery_exact_idle h (Or.inl hj) i
  rw [hr, he] at this
  simpa using this

/-- **Published before the window closed ⇒ inside the window.** Take any reachable state `s` in which
subscription `i`'s window is still open (in particular: any state before its cancellation is processed),
and any continuation of the run to a state `s'` in which the window has ended at `b`. Then `b` is at least
the length of the log at `s`: every publication Joe had accepted by then — every Publish call that had
returned — lies inside `i`'s window, so by `delivery_exact` it is delivered to `i` if it matches. -/
theorem published_before_end_is_in_window {c : Cfg} {s s' : St} {ls : List Label} (h : Reachable c s)
    (r : Run c s ls s') (i : SubId) (he : (s.subs i).endAt = none) (b : Nat) (hb : (s'.subs i).endAt = some b) :
    s.log.length ≤ b :=
  (run_window_end h r i).2 he b hb

/-- non-vacuity of the hypotheses above: a run with an open window that then ends -/
example : ∃ (c : Cfg) (s s' : St) (ls : List Label), Reachable c s ∧ Run c s ls s' ∧
    (s.subs 0).endAt = none ∧ (s'.subs 0).endAt = some 0 := by
  let c : Cfg := { subTopics := fun _ => [0], pubTopics := fun _ => [0] }
  let ls : List Label := [.subCall 0, .subAccept 0 [] .ok, .cancel 0, .subSeeCancel 0, .unsubAccept 0]
  have h0 : Reachable c (GoSSE.Model.Joe.init true) := Reachable.init (isInit_init true)
  match hr : run c (GoSSE.Model.Joe.init true) ls with
  | some s' =>
    refine ⟨c, _, s', ls, h0, run_Run hr, rfl, ?_⟩
    have : ((run c (GoSSE.Model.Joe.init true) ls).map fun t => (t.subs 0).endAt) = some (some 0) := by decide
    rw [hr] at this; simpa using this
  | none =>
    have : (run c (GoSSE.Model.Joe.init true) ls).isSome = true := by decide
    rw [hr] at this; simp at this

/-- `Server.Publish(m, topics...)` publishes on `getTopics(topics)`: **as translated from server.go**, the topics as
given, or — when none are given — exactly the default topic (the empty name), so that "whose topics intersect the
message's topics" reads the same through the server's entry point as through `Joe.Publish`. -/
theorem translated_getTopics (fuel : Nat) (l : List Bytes) :
    Gen.getTopics fuel l = .ok (if l.isEmpty then [[]] else l) :=
  GenEquiv.getTopics_eq fuel l

example : Gen.getTopics 0 [] = .ok [[]] ∧ Gen.getTopics 0 [[110], []] = .ok [[110], []] := ⟨rfl, rfl⟩

/-! ### The fan-out of a published message, as translated from joe.go

The `range` statement of the message case of `Joe.start` — `for done, sub := range j.subscribers { if topicsIntersect … {
Send; Flush; on error: done <- err; removeSubscriber } }` — is translated as a definition of its own (`Gen.Joe_fanout`;
`GenEquiv.fanout_eq`: the fold of `fanStep` over the order in which the map is ranged over, **any** order). The theorems
below are about that source text, for every map of subscribers, every message, every behaviour of the subscribers'
writers (`GoRT.MsgWriter`: any state machine) and every duplicate-free visiting order (a map's keys are distinct). -/

/-- The translated fan-out is the fold of the one-key step; it does not panic, its loop ends. -/
theorem translated_fanout_is_fold {σ : Type} (fuel : Nat) (j : Gen.Joe σ) (msg : Gen.publishedMessage) (order : List Nat)
    (hf : order.length < fuel) (hfit : GenEquiv.TopicsFit fuel msg j) :
    Gen.Joe_fanout fuel j msg order = .ok (order.foldl (GenEquiv.fanStep msg) j) :=
  GenEquiv.fanout_eq fuel j msg order hf hfit

/-- **Exactly once, and only to matching subscribers.** After the translated fan-out the entry of every visited subscriber
is what *one* `outcome` makes of the entry it had before: left exactly as it was when its topics do not meet the message's
(no call on its writer), its writer in the state after exactly one `Send` of the message followed by one `Flush` when both
succeeded — never twice, however many topics match —, and gone when one of them failed. -/
theorem fanout_exactly_once {σ : Type} (fuel : Nat) (j : Gen.Joe σ) (msg : Gen.publishedMessage) (order : List Nat)
    (hf : order.length < fuel) (hfit : GenEquiv.TopicsFit fuel msg j) (hnd : order.Nodup)
    (k : Nat) (sub : Gen.Subscription σ) (hk : k ∈ order) (h : GoRT.mapGet j.subscribers k = some sub) :
    ∃ j', Gen.Joe_fanout fuel j msg order = .ok j' ∧
      GoRT.mapGet j'.subscribers k =
        match GenEquiv.outcome msg sub with
        | .skipped => some sub
        | .delivered sub' => some sub'
        | .failed _ => none :=
  ⟨_, GenEquiv.fanout_eq fuel j msg order hf hfit, GenEquiv.fold_at msg order j k sub hnd hk h⟩

/-- … and a key the range does not produce keeps its entry: nobody else is written to. -/
theorem fanout_touches_no_other {σ : Type} (fuel : Nat) (j : Gen.Joe σ) (msg : Gen.publishedMessage) (order : List Nat)
    (hf : order.length < fuel) (hfit : GenEquiv.TopicsFit fuel msg j) (k : Nat) (hk : k ∉ order) :
    ∃ j', Gen.Joe_fanout fuel j msg order = .ok j' ∧ GoRT.mapGet j'.subscribers k = GoRT.mapGet j.subscribers k :=
  ⟨_, GenEquiv.fanout_eq fuel j msg order hf hfit, GenEquiv.fold_not_in msg order j k hk⟩

end GoSSE.Props.C03
