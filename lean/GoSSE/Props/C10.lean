import GoSSE.Proofs.ClientConnect
import GoSSE.Proofs.GenEquivReset
import GoSSE.Props.C01
import GoSSE.Props.C20
/-!
# C10 — reconnects carry the last dispatched event ID and a fresh request body

Model: `Model/Connection.lean` (`resetRequestBody`, `resetRequest`, `doConnect`, the `Connect` loop over a
history of attempt outcomes); a stream attempt runs the parser model `implRun` (C01's model) with the
connection's `lastEventID`, and stores the `LastEventID` of every dispatched event.

Two forms of the headline:
* `header_is_last_dispatched_id` — against the MODEL: the events are those `implRun` dispatches;
* `header_is_last_dispatched_id_spec` — against the SPECIFICATION `Spec.run`, under the clearly named
  hypothesis `RefinesSpec c.buf h` (the reader dispatches exactly the specification's events on the streams of
  the history — that refinement is property C01).
-/
namespace GoSSE.Props.C10
open GoSSE GoSSE.Spec GoSSE.Spec.Client GoSSE.Model GoSSE.Model.Client GoSSE.Proofs.ClientBackoff GoSSE.Proofs.ClientConnect

/-- Model form. In the trace of every `Connect` run, every attempt after the first carries
`Last-Event-ID = ` the `LastEventID` of the most recently dispatched event of all connections so far
(`lastDispatched` over the `connected` items), and no header iff that is empty. The value survives any
number of failed attempts (only `connected` items change it); an `id` of an event that was not dispatched
is not in `outs` and so does not count; IDs with NUL never enter `LastEventID` (`readField`). -/
theorem header_is_last_dispatched_id (cfg : Cfg) (fl : Floats) (h : List Attempt) (c : Conn) (t0 : Int) (done0 : Bool)
    (hc : c.isRetry = false) :
    headersOK true c.lastEventID (connect cfg fl c t0 done0 h).trace := by
  have := headersOK_run (connectLoop_run cfg fl h c (Ctl.new cfg t0) done0)
  rw [hc] at this
  exact this

/-- Specification form (headline). Under `RefinesSpec c.buf h` (C01), the headers of the attempts of any run are
a prefix of: the request's own header for the first attempt, then for attempt `n+1` the header of the
last dispatched ID according to the SPECIFICATION interpretation (`Spec.run`) of all streams of
attempts `0..n` — absent iff that ID is empty. -/
theorem header_is_last_dispatched_id_spec (cfg : Cfg) (fl : Floats) (h : List Attempt) (c : Conn) (t0 : Int) (done0 : Bool)
    (hc : c.isRetry = false) (href : RefinesSpec c.buf h) :
    attemptHeaders (connect cfg fl c t0 done0 h).trace <+: expectedHeaders c.req.header c.lastEventID h := by
  have := attemptHeaders_run (connectLoop_run cfg fl h c (Ctl.new cfg t0) done0) href
  rw [hc] at this
  exact this

/-- `RefinesSpec` is what C01 proves: whenever no stream of the history makes the connection's scanner
report `ErrTooLong`, the reader dispatches exactly the specification's events (`C01.read_conforms_or_toolong`). -/
theorem refinesSpec_of_noTooLong (buf : Option (Nat × Int)) (h : List Attempt) (hn : NoTooLong buf h) :
    RefinesSpec buf h := by
  intro a ha src ic ho id
  have hc := GoSSE.Props.C01.read_conforms_or_toolong true id src buf
  simp only at hc
  rcases hc with ⟨ht, _⟩ | ⟨he, _⟩
  · exact absurd ht (hn a ha src ic ho id)
  · unfold srcBytes srcEnd; rw [he]

/-- **Headline, with C01 discharged.** For every history none of whose streams exceeds the connection's
buffer limit, the Last-Event-ID header of every attempt is the one the WHATWG interpretation of all
streams received so far prescribes (absent iff that ID is empty): the ID of the most recently *dispatched*
event that set one — an `id` line of an event cut before dispatch does not count, NUL IDs are ignored, the
value survives failed attempts. -/
theorem header_is_last_dispatched_id_whatwg (cfg : Cfg) (fl : Floats) (h : List Attempt) (c : Conn) (t0 : Int) (done0 : Bool)
    (hc : c.isRetry = false) (hn : NoTooLong c.buf h) :
    attemptHeaders (connect cfg fl c t0 done0 h).trace <+: expectedHeaders c.req.header c.lastEventID h :=
  header_is_last_dispatched_id_spec cfg fl h c t0 done0 hc (refinesSpec_of_noTooLong c.buf h hn)

/-- non-vacuity of `NoTooLong`: a short stream under the default limit -/
example : NoTooLong none [{ out := .stream { chunks := [[105, 100, 58, 32, 49, 10, 10]], endErr := false } false }] := by
  intro a ha src ic ho id
  simp only [List.mem_singleton] at ha
  subst ha
  simp only [Outcome.stream.injEq] at ho
  obtain ⟨rfl, _⟩ := ho
  have hfit := GoSSE.Props.C20.fits_implies_complete true id { chunks := [[105, 100, 58, 32, 49, 10, 10]], endErr := false } none
    (by
      show GoSSE.Proofs.FitsLimit 65536 [105, 100, 58, 32, 49, 10, 10]
      refine GoSSE.Proofs.FitsLimit.piece _ 7 (by decide) (by decide) ?_
      exact GoSSE.Proofs.FitsLimit.rest _ (by decide) (by decide))
  exact hfit.1

/-- non-vacuity of `RefinesSpec` on a concrete stream: `id: 1`, blank line, then an event cut before
dispatch whose `id: 2` does not count — model and specification both end with ID `1` -/
example :
    let src : Source := { chunks := [[105, 100, 58, 32, 49, 10, 10, 105, 100, 58, 32, 50, 10, 100]], endErr := false }
    lastDispatched [] (implRun true [] src none).1 = [49] ∧
    lastDispatched [] (run .gosse true [] (srcBytes src) (srcEnd src)).1 = [49] := by
  decide

/-- The first attempt is sent with the request exactly as the caller made it: header, body and
`GetBody` untouched. -/
theorem first_attempt_untouched (cfg : Cfg) (fl : Floats) (a : Attempt) (rest : List Attempt) (c : Conn) (t0 : Int)
    (hc : c.isRetry = false) (x : TItem) (hx : (connect cfg fl c t0 false (a :: rest)).trace.head? = some x) :
    x = .attempt c.req.header c.req.body c.req.getBodyCalls := by
  obtain ⟨c', hr, rfl⟩ := head_run (connectLoop_run cfg fl (a :: rest) c (Ctl.new cfg t0) false) x hx
  rw [resetRequest_first c hc] at hr
  cases hr
  rfl

/-- The body table of one reset (`resetRequestBody`), complete: no body / `NoBody` — nothing happens and
`GetBody` is not called; a body without `GetBody` — `ErrNoGetBody`; `GetBody` failing — its own error;
otherwise exactly one `GetBody` call and the request carries the fresh body it returned. -/
theorem body_reset_table (r : Req) :
    ((r.body = .none ∨ r.body = .noBody) → resetRequestBody r = (r, none)) ∧
    (¬ (r.body = .none ∨ r.body = .noBody) →
      (r.getBody = .absent → resetRequestBody r = (r, some .noGetBody)) ∧
      (∀ failAt, r.getBody = .present failAt →
        (failAt = some r.getBodyCalls → resetRequestBody r = ({ r with getBodyCalls := r.getBodyCalls + 1 }, some .getBody)) ∧
        (failAt ≠ some r.getBodyCalls →
          resetRequestBody r = ({ r with getBodyCalls := r.getBodyCalls + 1, body := .fresh (r.getBodyCalls + 1) }, none)))) :=
  resetRequestBody_table r

/-- A body that cannot be re-obtained ends `Connect` at once, with that error wrapped, and without
another request being sent: if the reset of a retry fails with `e`, the run ends right there with
`ConnectionError{Err: e}` and contributes nothing more to the trace. -/
theorem reset_failure_ends_connect (cfg : Cfg) (fl : Floats) (a : Attempt) (rest : List Attempt) (c : Conn) (ctl : Ctl)
    (done : Bool) (e : ErrV) (hsel : (done && !a.timerWins) = false) (he : (resetRequest c).2 = some e) :
    (connectLoop cfg fl (a :: rest) c ctl done).trace = [] ∧
    (connectLoop cfg fl (a :: rest) c ctl done).result = some (.wrapped .resetFailed e) ∧
    (e = .noGetBody ∨ e = .getBody) := by
  rw [connectLoop_cons cfg fl a rest c ctl done _ (doConnect_resetFailed cfg c ctl a done e he)]
  simp only [hsel, Bool.false_eq_true, if_false]
  refine ⟨by simp, by simp, ?_⟩
  exact resetRequest_err_kinds c e he

/-- The body of every attempt of a run, for a request made with any body `c.req.body` (also one that is already a
`GetBody` result): attempt `i` carries `bodyAt c.req.body i`. -/
theorem bodies_per_attempt (cfg : Cfg) (fl : Floats) (h : List Attempt) (c : Conn) (t0 : Int) (done0 : Bool)
    (hc : c.isRetry = false) (hg : c.req.getBodyCalls = 0) :
    bodiesOK c.req.body 0 (connect cfg fl c t0 done0 h).trace :=
  bodiesOK_run (connectLoop_run cfg fl h c (Ctl.new cfg t0) done0) c.req.body 0 ⟨by simp [hc], by rw [hg]; simp [bodyAt]⟩

/-- Across a whole run: the `i`-th attempt (0-based) carries the original body for `i = 0` and, for
`i > 0`, the fresh body returned by the `i`-th `GetBody` call, `GetBody` having been called exactly `i`
times — one call per retry, a consumed body is never sent again; requests without a body (or with
`NoBody`) never call `GetBody`. -/
theorem body_per_attempt (cfg : Cfg) (fl : Floats) (h : List Attempt) (c : Conn) (t0 : Int) (done0 : Bool)
    (hc : c.isRetry = false) (hg : c.req.getBodyCalls = 0)
    (hb : c.req.body = .none ∨ c.req.body = .noBody ∨ c.req.body = .orig) :
    bodiesOK c.req.body 0 (connect cfg fl c t0 done0 h).trace :=
  bodies_per_attempt cfg fl h c t0 done0 hc hg

/-- **`Connection.resetRequest` and `resetRequestBody` as translated** — what every (re)connection attempt does to the
request before it is sent. On `GoRT.HttpReq` (the request's body, its `GetBody` as the answers of its successive calls,
its header map with any other headers `rest`) the translated code is the model's `resetRequest`: nothing but `isRetry`
changes before the first attempt; afterwards a body other than nil / `http.NoBody` is re-obtained through `GetBody`
(`ErrNoGetBody` when there is none, `GetBody`'s own error otherwise — and then neither body nor header is touched), and
the `Last-Event-ID` header is set to the connection's last event ID or removed when that is empty; it does not panic.
The header / body theorems above are stated over that model function, so they are statements about the source text of
these two functions (the `Connect` loop that calls them stays with the hand model and the CONN correspondence). -/
theorem translated_resetRequest_is_model (fuel : Nat) (rest : List (Bytes × List Bytes))
    (hrest : ∀ e ∈ rest, e.1 ≠ GenEquiv.leidKey) (c : Conn) :
    Gen.Connection_resetRequest fuel (GenEquiv.gOf rest c) =
      .ok (GenEquiv.resetErrS (resetRequest c).2, GenEquiv.gOf rest (resetRequest c).1) :=
  GenEquiv.resetRequest_eq fuel rest hrest c

theorem translated_resetRequestBody_is_model (fuel : Nat) (rest : List (Bytes × List Bytes)) (r : Req) :
    Gen.resetRequestBody fuel (GenEquiv.toGenReq rest r) =
      .ok (GenEquiv.resetErrS (resetRequestBody r).2, GenEquiv.toGenReq rest (resetRequestBody r).1) :=
  GenEquiv.resetRequestBody_eq fuel rest r

/-- non-vacuity: a retry with last event ID `7` on a request with a body and `GetBody`: the body is the fresh one, the
header is set -/
example :
    (Gen.Connection_resetRequest 1 (GenEquiv.gOf [] { req := { header := none, body := .orig, getBody := .present none }, lastEventID := [55], isRetry := true })).map
      (fun r => (r.1, r.2.request.map fun q => (q.Body, q.gbCalls, q.Header))) =
    .ok (none, some (.tag 1, 1, [(GenEquiv.leidKey, [[55]])])) := by
  rfl

end GoSSE.Props.C10
