import GoSSE.Proofs.MessageRoundTrip
import GoSSE.Proofs.GenEquivWrite
import GoSSE.Proofs.GenEquivEncode
import GoSSE.Proofs.GenEquivUnmarshal
import GoSSE.Props.C02
/-!
# C15 — message text round trip and exact byte accounting

`Writer σ ε` is an arbitrary `io.Writer` (a state machine); `Writer.Obeys` is the `io.Writer`
contract; the ghost `log` of a `WriteTo` run lists the `Write` calls made (argument, count
accepted, error returned); `accepted log` are the bytes the writer took, in order.
-/
namespace GoSSE.Props.C15
open GoSSE GoSSE.Spec GoSSE.Model GoSSE.Proofs

/-- Under the writer contract `WriteTo` is exactly "perform the `Write` calls `writes m` in order
and stop at the first error" — for every writer, every state, every message with an `int64` Retry. -/
theorem writeTo_is_writeAll {σ ε : Type} (w : Writer σ ε) (hw : w.Obeys) (st : σ) (m : Message)
    (hm : m.retry ≤ (maxInt64 : Int)) :
    m.writeTo w st = writeAll w { n := 0, err := none, st := st, log := [] } m.writes :=
  writeTo_eq_writeAll w hw st m (retryOK_of_le m hm)

/-- Accounting. For every writer obeying the `io.Writer` contract — in particular one that fails
or short-writes at any call — `WriteTo`
* returns as `n` exactly the number of bytes the writer accepted,
* has written a prefix of the full encoding, the whole of it when it returns no error,
* made an initial segment of the encoding's `Write` calls, all of them when there is no error,
* returns the error of the last call it made, every earlier call having succeeded in full
  (so it stops at the first error and returns that error),
* never panics. -/
theorem writeTo_accounting {σ ε : Type} (w : Writer σ ε) (hw : w.Obeys) (st : σ) (m : Message)
    (hm : m.retry ≤ (maxInt64 : Int)) :
    let r := m.writeTo w st
    r.n = (accepted r.log).length ∧
    accepted r.log <+: m.encode ∧
    (r.err = none → accepted r.log = m.encode) ∧
    r.log.map (·.1) <+: m.writes ∧
    (r.err = none → r.log.map (·.1) = m.writes) ∧
    r.err = lastErr r.log ∧
    (∀ c ∈ r.log.dropLast, c.2.2 = none ∧ c.2.1 = c.1.length) ∧
    r.panic = false := by
  have hok := retryOK_of_le m hm
  have h := r0_acc w hw st m.writes
  rw [← writeTo_eq_writeAll w hw st m hok] at h
  exact ⟨h.count, h.bytes, fun he => (h.complete he).2, h.calls, fun he => (h.complete he).1, h.err_last, h.earlier,
    C02.writeTo_never_panics w st m hm⟩

/-- "… equal iff no error": for writers that report an error only together with a short write,
the accepted bytes are the whole encoding exactly when `WriteTo` returns no error. (A writer may
also take all of the last `Write` and still return an error; then everything was written and the
error is returned — covered by `writeTo_accounting`.) -/
theorem complete_iff_no_error {σ ε : Type} (w : Writer σ ε) (hw : w.Obeys)
    (hstrict : ∀ st p, (w.write st p).2.1 ≠ none → (w.write st p).1 < p.length)
    (st : σ) (m : Message) (hm : m.retry ≤ (maxInt64 : Int)) :
    accepted (m.writeTo w st).log = m.encode ↔ (m.writeTo w st).err = none := by
  have hok := retryOK_of_le m hm
  have h := r0_acc w hw st m.writes
  rw [← writeTo_eq_writeAll w hw st m hok] at h
  constructor
  · intro heq
    cases he : (m.writeTo w st).err with
    | none => rfl
    | some e =>
      exfalso
      obtain ⟨c, hc, hlen⟩ := h.short (by simp [he])
      have hce : c.2.2 = some e := by
        have := h.err_last; rw [he] at this; simp [lastErr, hc] at this; exact this.symm
      -- the failing call is a logged call of `w`, hence short
      have hlog := writeAll_log_faithful w (r0 st) m.writes (by intro c hc; simp [r0] at hc)
      rw [← writeTo_eq_writeAll w hw st m hok] at hlog
      obtain ⟨s, hs1, hs2⟩ := hlog c (List.mem_of_getLast? hc)
      have := hstrict s c.1 (by rw [← hs2, hce]; simp)
      rw [← hs1] at this
      have hl : (accepted (m.writeTo w st).log).length = m.encode.length := by rw [heq]
      unfold Message.encode at hl
      omega
  · exact fun he => (h.complete he).2

/-- `WriteTo` (into a buffer), `MarshalText` and `String` produce identical bytes — the encoding —
and `WriteTo` reports their number and no error. -/
theorem three_encoders_agree (m : Message) (hm : m.retry ≤ (maxInt64 : Int)) :
    (m.writeTo bufWriter []).st = m.encode ∧ m.marshalText = m.encode ∧ m.string = m.encode ∧
    (m.writeTo bufWriter []).n = m.encode.length ∧ (m.writeTo bufWriter []).err = none := by
  have e := writeTo_eq_writeAll bufWriter bufWriter_obeys [] m (retryOK_of_le m hm)
  have b := buf_writeAll (r0 []) m.writes rfl
  simp only [Message.marshalText, Message.string, e]
  simp only [r0, List.nil_append, Nat.zero_add] at b
  exact ⟨b.1, b.1, b.1, b.2.2, b.2.1⟩

/-- a message with nothing to write makes no `Write` call at all, on any writer, and returns `(0, nil)` -/
theorem nothing_to_write_writes_nothing {σ ε : Type} (w : Writer σ ε) (st : σ) (m : Message) (h : hasField m = false) :
    m.encode = [] ∧ (m.writeTo w st).log = [] ∧ (m.writeTo w st).n = 0 ∧ (m.writeTo w st).err = none := by
  have hb : m.bodyWrites = [] := List.isEmpty_iff.1 (by rw [bodyWrites_isEmpty, lines_isEmpty, h]; rfl)
  have hok : RetryOK m := Or.inl (Int.not_lt.1 fun h' => by simp [hasField, h'] at h)
  rw [writeTo_body w st m hok]
  simp [Message.encode, Message.writes, hb, writeAll, r0]

/-- a message with at least one field writes something -/
theorem has_field_writes_something (m : Message) (h : hasField m = true) : m.encode ≠ [] := by
  rw [encode_eq, msgLines, lines_isEmpty, h]
  simp [term]

/-- Round trip. For every message built through the public API that has at least one field and
whose ID (if set) has no NUL: `UnmarshalText(MarshalText(m))` succeeds and reproduces the same ID,
type, ordered data and comment lines, and the retry value to the millisecond (`normalise`). -/
theorem unmarshal_marshal (ops : List BuildOp) (hv : ∀ op ∈ ops, BuildOp.Valid op)
    (hf : hasField (build ops) = true) (hnul : (build ops).id.set = true → (build ops).id.value.contains 0 = false) :
    Message.unmarshalText (build ops).marshalText = (normalise (build ops), .nil) := by
  have hr := build_retry_le ops hv
  rw [(three_encoders_agree _ hr).2.1]
  exact unmarshal_encode (build ops) ((wf_iff _).1 (wf_build ops hv)).1 (canon_build ops hv) hr hf hnul

example : Message.unmarshalText (build [.setID [49], .appendData [[97, 10, 98]], .appendComment [[99]], .setRetry 1999999]).marshalText =
    ({ id := { value := [49], set := true }, chunks := [⟨[97], false⟩, ⟨[98], false⟩, ⟨[99], true⟩], retry := 1000000 }, .nil) := by
  decide

/-- `Message.WriteTo` *as translated from message.go* — `writeID`, `writeType`, `writeRetry` with its 13-byte digit
buffer, the chunk loop, `chunk.WriteTo`, `writeMessageField`, `writeString`, every `n += m; if err != nil { return }`
— returns, for **every** writer (any state machine), message and starting state, exactly the count and the error of
the model's `writeTo` and leaves the writer in the model's state; it panics exactly when the model does. The
accounting theorem above (`writeTo_accounting`: count = bytes accepted, accepted bytes a prefix of the encoding, the
first error returned) is therefore a statement about the source text. -/
theorem translated_WriteTo_is_model {σ : Type} (fuel : Nat) (w : Writer σ String) (st : σ) (m : Message)
    (hf : 13 < fuel) (hc : m.chunks.length < fuel) :
    Gen.Message_WriteTo fuel (GenEquiv.toGenMsg m) (GenEquiv.toGenW w st) =
      GenEquiv.okOrPanic w (m.writeTo w st) (GenEquiv.toGenMsg m) :=
  GenEquiv.WriteTo_eq fuel w st m hf hc

/-- for a `time.Duration` retry value the translated `WriteTo` does not panic: it returns normally -/
theorem translated_WriteTo_returns {σ : Type} (fuel : Nat) (w : Writer σ String) (st : σ) (m : Message)
    (hf : 13 < fuel) (hc : m.chunks.length < fuel) (hm : m.retry ≤ (maxInt64 : Int)) :
    Gen.Message_WriteTo fuel (GenEquiv.toGenMsg m) (GenEquiv.toGenW w st) =
      .ok (((m.writeTo w st).n : Int), (m.writeTo w st).err, GenEquiv.toGenMsg m, GenEquiv.toGenW w (m.writeTo w st).st) := by
  rw [GenEquiv.WriteTo_eq fuel w st m hf hc]
  unfold GenEquiv.okOrPanic GenEquiv.okOf
  rw [GoSSE.Props.C02.writeTo_never_panics w st m hm]
  rfl


/-- `Message.MarshalText` and `Message.String` *as translated from message.go* — each a `WriteTo` into a
`bytes.Buffer` / `strings.Builder` (the bytes written so far; as an `io.Writer`, the writer that appends and never
fails) — return, for every message with a `time.Duration` retry value, exactly the model's encoding, `MarshalText`
with a nil error, and leave the message as it was: the three ways of encoding agree on the source text. -/
theorem translated_MarshalText_is_encode (fuel : Nat) (m : Message) (hf : 13 < fuel) (hc : m.chunks.length < fuel)
    (hm : m.retry ≤ (maxInt64 : Int)) :
    Gen.Message_MarshalText fuel (GenEquiv.toGenMsg m) = .ok (m.encode, none, GenEquiv.toGenMsg m) :=
  GenEquiv.MarshalText_eq fuel m hf hc hm

theorem translated_String_is_encode (fuel : Nat) (m : Message) (hf : 13 < fuel) (hc : m.chunks.length < fuel)
    (hm : m.retry ≤ (maxInt64 : Int)) :
    Gen.Message_String fuel (GenEquiv.toGenMsg m) = .ok (m.encode, GenEquiv.toGenMsg m) :=
  GenEquiv.MessageString_eq fuel m hf hc hm


/-- `Message.UnmarshalText` *as translated from message.go* — `reset`, the field-parser loop with its `switch` (a
`break` that leaves the switch, the labelled `break loop`), the retry checks (first non-digit, `strconv.ParseInt`,
the `int64` multiplication by `time.Millisecond` with wrap-around), the final emptiness test — returns, for **every**
text and whatever the receiver held before, the model's receiver and the model's error class; it does not panic
and its loop ends. -/
theorem translated_UnmarshalText_is_model (fuel : Nat) (e : Gen.Message) (p : Bytes) (hf : p.length + 2 < fuel) :
    Gen.Message_UnmarshalText fuel e p =
      .ok (GenEquiv.uErrStr (Message.unmarshalText p).2, GenEquiv.toGenMsg (Message.unmarshalText p).1) :=
  GenEquiv.Message_UnmarshalText_eq fuel e p hf

/-- The round trip, on the translated decoding side: for every message built through the public API with at least
one field and no NUL in its ID, the translated `UnmarshalText` applied to the model's `MarshalText` (which the
translated `WriteTo` is proved to produce, `translated_WriteTo_is_model`) returns no error and the normalised
message. -/
theorem translated_unmarshal_marshal (fuel : Nat) (e : Gen.Message) (ops : List BuildOp) (hv : ∀ op ∈ ops, BuildOp.Valid op)
    (hf : hasField (build ops) = true) (hnul : (build ops).id.set = true → (build ops).id.value.contains 0 = false)
    (hfuel : (build ops).marshalText.length + 2 < fuel) :
    Gen.Message_UnmarshalText fuel e (build ops).marshalText = .ok (none, GenEquiv.toGenMsg (normalise (build ops))) := by
  rw [GenEquiv.Message_UnmarshalText_eq fuel e _ hfuel, unmarshal_marshal ops hv hf hnul]
  rfl

example : Gen.Message_UnmarshalText 40 default [105, 100, 58, 32, 55, 10, 100, 97, 116, 97, 58, 32, 120, 10, 10] =
    .ok (none, { chunks := [{ content := [120], isComment := false }], ID := { messageField := { value := [55], set := true } },
                 Type' := { messageField := { value := [], set := false } }, Retry := 0 }) := by
  rfl

end GoSSE.Props.C15
