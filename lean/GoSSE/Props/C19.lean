import GoSSE.Proofs.MessageHeap
/-!
# C19 — publishing never mutates the caller's message; clones are independent

Heap level (`Model/Heap.lean`): `Message.chunks` is a slice `(array, len, cap)` into a shared
heap of backing arrays; `append` writes in place when `len < cap` and otherwise moves to a fresh
array whose capacity is *any* number `≥ len + 1` (oracle `extra`, one free choice per
allocation); `Clone` is `chunks[:len:len]`; `Put` is `ensureID`. Value level
(`Spec/Message.lean`, `PureState`): messages are plain values, a clone is a copy.
A script `ops : List FOp` is any interleaving of AppendData / AppendComment / ID, Type, Retry
assignment / UnmarshalText / Clone / Put on the members of a family that starts with one empty message.
-/
namespace GoSSE.Props.C19
open GoSSE GoSSE.Spec GoSSE.Model GoSSE.Proofs

/-- The ownership invariant holds after every script, under every growth policy: every slice
lies within its array; among the messages sharing an array at most one has `cap > len`, and
every other one has `cap = len ≤` that one's `len`. -/
theorem invariant_holds (extra : Nat → Nat) (ops : List FOp) :
    HInv (({} : FamState).run extra ops).heap (({} : FamState).run extra ops).fam :=
  (run_sim extra ops {} {} hinv_init sim_init).1

/-- Clone independence, Put included: for every interleaving of operations and every growth
policy, what each member of the family *is* (its chunks read through the heap, its fields) —
hence what it encodes to — is exactly its own value-level history: the result of running the
same script on plain values, where an operation on one member cannot touch another.
The results of the `Put` calls agree too. -/
theorem clone_family_independent (extra : Nat → Nat) (ops : List FOp) :
    (({} : FamState).run extra ops).views = (({} : PureState).run ops).fam ∧
    (({} : FamState).run extra ops).puts = (({} : PureState).run ops).puts := by
  have h := (run_sim extra ops {} {} hinv_init sim_init).2
  exact ⟨h.fam, h.puts⟩

/-- every member encodes (`String()`) to what its own history prescribes -/
theorem encodings_are_own_history (extra : Nat → Nat) (ops : List FOp) :
    (({} : FamState).run extra ops).views.map Message.encode = (({} : PureState).run ops).fam.map Message.encode := by
  rw [(clone_family_independent extra ops).1]

/-- the growth policy of `append` is unobservable -/
theorem growth_policy_irrelevant (extra₁ extra₂ : Nat → Nat) (ops : List FOp) :
    (({} : FamState).run extra₁ ops).views = (({} : FamState).run extra₂ ops).views := by
  rw [(clone_family_independent extra₁ ops).1, (clone_family_independent extra₂ ops).1]

/-- non-vacuity: in-place appends do happen and are shared (policy with spare capacity), yet the
clone taken in the middle keeps its own two lines -/
example : (({} : FamState).run (fun _ => 3)
      [.appendData 0 [[97]], .appendData 0 [[98]], .clone 0, .appendData 0 [[99]], .appendData 1 [[100]]]).views.map (·.chunks.map (·.content)) =
    [[[97], [98], [99]], [[97], [98], [100]]] := by decide

def target : FOp → Nat
  | .appendData i _ | .appendComment i _ | .setID i _ | .setType i _ | .setRetry i _ | .clone i | .put i _ | .unmarshal i _ => i

theorem pure_modify_frame (ps : PureState) (i j : Nat) (f : Message → Message) (hji : j ≠ i) :
    (ps.modify i f).fam[j]? = ps.fam[j]? := by
  unfold PureState.modify
  split
  · rfl
  · exact List.getElem?_set_ne (Ne.symm hji)

/-- `Clone` and `Put` only ever add a member at the end -/
theorem pure_clone_frame (ps : PureState) (i j : Nat) (hj : j < ps.fam.length) :
    (ps.step (.clone i)).fam[j]? = ps.fam[j]? := by
  simp only [PureState.step]
  split
  · rfl
  · exact List.getElem?_append_left hj

theorem pure_put_frame (ps : PureState) (i rep j : Nat) (hj : j < ps.fam.length) :
    (ps.step (.put i rep)).fam[j]? = ps.fam[j]? := by
  simp only [PureState.step]
  split
  · rfl
  · split
    · rfl
    · split
      · rfl
      · exact List.getElem?_append_left hj

/-- at the value level an operation leaves every existing member other than its target alone,
and `Clone`/`Put` leave their target alone as well -/
theorem pure_step_frame (ps : PureState) (op : FOp) (j : Nat) (hj : j < ps.fam.length)
    (hne : j ≠ target op ∨ (∃ i, op = .clone i) ∨ (∃ i r, op = .put i r)) :
    (ps.step op).fam[j]? = ps.fam[j]? := by
  rcases hne with h | ⟨i, rfl⟩ | ⟨i, r, rfl⟩
  · cases op with
    | appendData i x | appendComment i x | setID i x | setType i x | setRetry i x | unmarshal i x =>
      exact pure_modify_frame ps i j _ h
    | clone i => exact pure_clone_frame ps i j hj
    | put i rep => exact pure_put_frame ps i rep j hj
  · exact pure_clone_frame ps i j hj
  · exact pure_put_frame ps i r j hj

/-- the same through the heap, under any growth policy, from any reachable family -/
theorem run_step_frame (extra : Nat → Nat) (ops : List FOp) (op : FOp) (j : Nat)
    (hj : j < (({} : FamState).run extra ops).fam.length)
    (hne : j ≠ target op ∨ (∃ i, op = .clone i) ∨ (∃ i r, op = .put i r)) :
    (({} : FamState).run extra (ops ++ [op])).views[j]? = (({} : FamState).run extra ops).views[j]? := by
  have h := (run_sim extra ops {} {} hinv_init sim_init).2
  rw [(clone_family_independent extra (ops ++ [op])).1, h.fam, pure_run_snoc]
  exact pure_step_frame _ _ j (sim_length h ▸ hj) hne

/-- `Put` (and therefore `Publish`) never modifies the message it is given, nor any other existing
message: after a `Put` on a reachable family, under any growth policy, every member that existed
before — the published one included — is what it was. -/
theorem put_does_not_mutate (extra : Nat → Nat) (ops : List FOp) (i rep j : Nat)
    (hj : j < (({} : FamState).run extra ops).fam.length) :
    (({} : FamState).run extra (ops ++ [.put i rep])).views[j]? = (({} : FamState).run extra ops).views[j]? :=
  run_step_frame extra ops _ j hj (Or.inr (Or.inr ⟨i, rep, rfl⟩))

/-- `Clone` does not modify anything either -/
theorem clone_does_not_mutate (extra : Nat → Nat) (ops : List FOp) (i j : Nat)
    (hj : j < (({} : FamState).run extra ops).fam.length) :
    (({} : FamState).run extra (ops ++ [.clone i])).views[j]? = (({} : FamState).run extra ops).views[j]? :=
  run_step_frame extra ops _ j hj (Or.inr (Or.inl ⟨i, rfl⟩))

/-- an operation on one member never changes what another existing member is (and encodes to) -/
theorem other_members_untouched (extra : Nat → Nat) (ops : List FOp) (op : FOp) (j : Nat)
    (hj : j < (({} : FamState).run extra ops).fam.length) (hne : j ≠ target op) :
    (({} : FamState).run extra (ops ++ [op])).views[j]? = (({} : FamState).run extra ops).views[j]? :=
  run_step_frame extra ops op j hj (Or.inl hne)

/-- decimal IDs of different counter values differ -/
theorem formatUint_injective (a b : Nat) (h : formatUint a = formatUint b) : a = b := by
  have := congrArg digitsVal h
  rwa [digitsVal_formatUint, digitsVal_formatUint] at this

/-- Each publication gets its own ID. Publishing member `i` (which has no ID) `k` times in a
row through a replayer with automatic IDs, from any reachable family and under any growth policy:
the `n`-th publication stores a new message that is the original with ID `decimal(c + n)`, `c`
being the replayer's counter; the original stays as it was; the IDs are pairwise distinct
(`formatUint_injective`). -/
theorem each_publication_own_id (extra : Nat → Nat) (ops : List FOp) (i rep k : Nat) (m : Message)
    (ha : autoIDs rep = true) (hi : (({} : PureState).run ops).fam[i]? = some m) (hid : m.id.set = false) :
    (({} : FamState).run extra (ops ++ List.replicate k (.put i rep))).views =
      (({} : PureState).run ops).fam ++
        (List.range k).map (fun n => { m with id := { value := formatUint ((({} : PureState).run ops).ctr rep + n), set := true } }) := by
  rw [(clone_family_independent extra _).1]
  have : ({} : PureState).run (ops ++ List.replicate k (.put i rep)) =
      (({} : PureState).run ops).run (List.replicate k (.put i rep)) := by
    simp [PureState.run, List.foldl_append]
  rw [this]
  exact (pure_puts (({} : PureState).run ops) i rep k m ha hi hid).1

example : (({} : FamState).run (fun _ => 0) [.appendData 0 [[104, 105]], .put 0 0, .put 0 0, .put 0 2]).views.map (·.id) =
    [{}, { value := [48], set := true }, { value := [49], set := true }, { value := [48], set := true }] := by decide

end GoSSE.Props.C19
