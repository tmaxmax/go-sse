import GoSSE.Proofs.JoeResult
import GoSSE.Proofs.JoeProgress
/-!
# C06 — the provider never crashes and never touches a subscriber after Subscribe returned

Statements about every reachable state of the transition system `GoSSE.Model.Joe`, i.e. every
interleaving of Subscribe / Publish / Shutdown calls, context cancellations, Send / Flush / Put /
Replay outcomes and `select` choices. The tie between that system and `joe.go` is the trace
inclusion check (`./check C06`).
-/
namespace GoSSE.Props.C06
open GoSSE.Model.Joe GoSSE.Proofs.Joe

/-- Joe's goroutine never panics (close of a closed channel, send on a closed channel) and never
blocks forever on a subscriber's channel — in every reachable state. -/
theorem never_panics {c : Cfg} {s : St} (h : Reachable c s) : s.joe ≠ .panicked ∧ s.joe ≠ .blocked :=
  (reachable_inv h).ok

/-- Once a `Subscribe` call has returned, no transition whatsoever makes another call on its
`MessageWriter`, and the call stays returned with the same result. -/
theorem untouched_after_return {c : Cfg} {s s' : St} (h : Reachable c s) (i : SubId) (r : Option Err)
    (hr : (s.subs i).pc = .returned r) (l : Label) (hs : step c s l = some s') :
    (s'.subs i).calls = (s.subs i).calls ∧ (s'.subs i).pc = .returned r := by
  have hinv := reachable_inv h
  have ht := step_trans hinv hs
  -- a returned subscription is not on a fan-out's list
  have hnot : ∀ p rest, s.joe = .fanout p rest → i ∉ rest := fun p rest hj hmem =>
    (hinv.ret i r hr).elim (fun hn => hn ((hinv.fan p rest hj).2 i hmem))
      fun ⟨p', rest', hf⟩ => by rw [hj] at hf; cases hf
  refine ⟨ht.calls_frame i (by rw [hr]; nofun) hnot, ?_⟩
  rw [(ht.pc_frame i).resolve_left fun e => e.2 r hr, hr]

/-- **What Subscribe can return.** In every reachable state a returned Subscribe call returned one of:
nil — and then its context was cancelled or the provider was shut down; its own Send/Flush error; the
error Replay returned for it; ErrProviderClosed. Never another subscriber's error. -/
theorem subscribe_result {c : Cfg} {s : St} (h : Reachable c s) (i : SubId) (r : Option Err)
    (hr : (s.subs i).pc = .returned r) :
    (r = none ∧ ((s.subs i).ctxCancelled = true ∨ s.doneClosed = true)) ∨
    r = some (.own i) ∨ r = some (.replay i) ∨ r = some .closed := by
  rcases (reachable_jinv h).result i r hr with ⟨h1, h2⟩ | h' | h' | h'
  · left; simp only [Bool.or_eq_true] at h2; exact ⟨h1, h2⟩
  · exact Or.inr (Or.inl h')
  · exact Or.inr (Or.inr (Or.inl h'))
  · exact Or.inr (Or.inr (Or.inr h'))

/-- **The own error is returned if one occurred**: when one of the subscription's own live Send/Flush
calls failed, the Subscribe call — once it returns — returns that error, unless its context was also
cancelled (then the two race and nil is possible; see DESIGN.md §8 "readings"). -/
theorem own_error_is_returned {c : Cfg} {s : St} (h : Reachable c s) (i : SubId) (r : Option Err)
    (hf : failedLive (s.subs i) = true) (hr : (s.subs i).pc = .returned r) :
    r = some (.own i) ∨ (s.subs i).ctxCancelled = true := by
  rcases (reachable_jinv h).ownErr i hf with ⟨_, hb⟩ | ⟨r', hr', hx⟩
  · exact Or.inr (hb r hr)
  · rw [hr] at hr'; simp only [SubPc.returned.injEq] at hr'; subst hr'; exact hx

end GoSSE.Props.C06
