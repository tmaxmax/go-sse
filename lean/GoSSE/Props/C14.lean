import GoSSE.Proofs.GenEquiv
import GoSSE.Proofs.GenEquivFieldRoutes
import GoSSE.Proofs.GenEquivFields
import GoSSE.Proofs.MessageFields
import GoSSE.Proofs.MessageBuild
/-!
# C14 — a set EventID/EventType is always a single line

One pair of theorems per construction route of a `messageField` in package `sse`
(`message_fields.go`, `message.go`, `session.go`): `set_implies_single_line` and
`multiline_leaves_unset` (with the error where the route reports one).
`NlFree v` says that no byte of `v` is CR or LF (`nlFree_iff`).
-/
namespace GoSSE.Props.C14
open GoSSE GoSSE.Spec GoSSE.Model GoSSE.Proofs

/-- `NlFree` is what the property calls a single line -/
theorem single_line_means (v : Bytes) : NlFree v ↔ ∀ b ∈ v, b ≠ 10 ∧ b ≠ 13 := nlFree_iff v

/-! ### `newMessageField` — behind `NewID`, `NewType`, `ID`, `Type` -/

theorem newMessageField_set_implies_single_line (v : Bytes) :
    (newMessageField v).1.set = true → NlFree (newMessageField v).1.value ∧ (newMessageField v).1.value = v := by
  rcases newMessageField_cases v with ⟨h, e⟩ | ⟨h, e⟩ <;> simp [e, h]

theorem newMessageField_multiline_leaves_unset (v : Bytes) (h : ¬ NlFree v) :
    (newMessageField v).1 = {} ∧ (newMessageField v).2 = true := by
  simp [newMessageField_multi v h]

/-- `NewID` / `NewType` -/
theorem newID_set_implies_single_line (v : Bytes) : (newID v).1.set = true → NlFree (newID v).1.value :=
  newID_wf v

theorem newID_multiline_leaves_unset (v : Bytes) (h : ¬ NlFree v) : (newID v).1 = {} ∧ (newID v).2 = true := by
  rw [newID_multi v h]; exact ⟨rfl, rfl⟩

theorem newType_set_implies_single_line (v : Bytes) : (newType v).1.set = true → NlFree (newType v).1.value :=
  newID_set_implies_single_line v

theorem newType_multiline_leaves_unset (v : Bytes) (h : ¬ NlFree v) : (newType v).1 = {} ∧ (newType v).2 = true :=
  newID_multiline_leaves_unset v h

/-- `ID` / `Type`: a value is returned only for single-line input; otherwise the call panics -/
theorem mustID_single_line (v : Bytes) (f : MField) (h : mustID v = some f) : NlFree f.value ∧ f.set = true := by
  by_cases hv : NlFree v
  · simp [mustID, newID_single v hv] at h; subst h; exact ⟨hv, rfl⟩
  · simp [mustID, newID_multi v hv] at h

theorem mustID_multiline_panics (v : Bytes) (h : ¬ NlFree v) : mustID v = none ∧ mustType v = none := by
  simp [mustType, mustID, newID_multi v h]

/-! ### `UnmarshalText`, `UnmarshalJSON`, `Scan` on a receiver holding any previous value -/

theorem unmarshalText_set_implies_single_line (prev : MField) (data : Bytes) :
    (MField.unmarshalText prev data).1.set = true → NlFree (MField.unmarshalText prev data).1.value := by
  rcases newMessageField_cases data with ⟨h, e⟩ | ⟨h, e⟩ <;> simp [MField.unmarshalText, e, h]

theorem unmarshalText_multiline_leaves_unset (prev : MField) (data : Bytes) (h : ¬ NlFree data) :
    (MField.unmarshalText prev data).1 = {} ∧ (MField.unmarshalText prev data).2 = true := by
  simp [MField.unmarshalText, newMessageField_multi data h]

/-- for every document and whatever string `encoding/json` decodes from it -/
theorem unmarshalJSON_set_implies_single_line (prev : MField) (data : Bytes) (decoded : Option Bytes) :
    (MField.unmarshalJSON prev data decoded).1.set = true → NlFree (MField.unmarshalJSON prev data decoded).1.value := by
  unfold MField.unmarshalJSON
  by_cases hn : (data == jsonNull) = true
  · simp [hn]
  · cases decoded with
    | none => simp [hn]
    | some s => rcases newMessageField_cases s with ⟨h, e⟩ | ⟨h, e⟩ <;> simp [hn, e, h]

theorem unmarshalJSON_multiline_leaves_unset (prev : MField) (data s : Bytes) (h : ¬ NlFree s) :
    (MField.unmarshalJSON prev data (some s)).1 = {} ∧
      (data ≠ jsonNull → (MField.unmarshalJSON prev data (some s)).2 = .multiline) := by
  unfold MField.unmarshalJSON
  by_cases hn : (data == jsonNull) = true
  · simp [hn]; simpa using hn
  · simp [hn, newMessageField_multi s h]

/-- `Scan`, for `nil`, `[]byte`, `string` and every other dynamic type -/
theorem scan_set_implies_single_line (prev : MField) (src : ScanSrc) :
    (MField.scan prev src).1.set = true → NlFree (MField.scan prev src).1.value := by
  cases src with
  | nil => simp [MField.scan]
  | other => simp [MField.scan]
  | bytes v => rcases newMessageField_cases v with ⟨h, e⟩ | ⟨h, e⟩ <;> simp [MField.scan, e, h]
  | string v => rcases newMessageField_cases v with ⟨h, e⟩ | ⟨h, e⟩ <;> simp [MField.scan, e, h]

theorem scan_multiline_leaves_unset (prev : MField) (v : Bytes) (h : ¬ NlFree v) :
    MField.scan prev (.bytes v) = ({}, .multiline) ∧ MField.scan prev (.string v) = ({}, .multiline) := by
  simp [MField.scan, newMessageField_multi v h]

/-- the defect of the original tree (§7-8) cannot come back unnoticed: its input is refused -/
example : MField.scan {} (.string [97, 10, 100, 97, 116, 97, 58, 32, 105, 110, 106, 101, 99, 116, 101, 100]) = ({}, .multiline) := by
  decide

/-! ### the `Last-Event-Id` header in `Upgrade` -/

theorem upgrade_set_implies_single_line (h : List Bytes) :
    (upgradeLastEventID h).set = true → NlFree (upgradeLastEventID h).value := by
  unfold upgradeLastEventID
  cases h with
  | nil => simp
  | cons h0 t =>
    by_cases he : h0.isEmpty = true
    · simp [he]
    · simp only [he, Bool.false_eq_true, if_false]; exact newID_set_implies_single_line h0

theorem upgrade_multiline_leaves_unset (h0 : Bytes) (t : List Bytes) (h : ¬ NlFree h0) :
    upgradeLastEventID (h0 :: t) = {} := by
  unfold upgradeLastEventID
  by_cases he : h0.isEmpty = true
  · simp [he]
  · simp [he, (newID_multiline_leaves_unset h0 h).1]

/-! ### `Message.UnmarshalText`'s direct assignments -/

/-- for every wire text: an ID or type left set on the receiver (also when an error is returned)
is a single line, because it is part of one `NextChunk` chunk; so is every data/comment chunk -/
theorem message_unmarshalText_set_implies_single_line (p : Bytes) :
    ((Message.unmarshalText p).1.id.set = true → NlFree (Message.unmarshalText p).1.id.value) ∧
    ((Message.unmarshalText p).1.typ.set = true → NlFree (Message.unmarshalText p).1.typ.value) ∧
    (∀ c ∈ (Message.unmarshalText p).1.chunks, NlFree c.content) :=
  let h := unmarshalText_ok p
  ⟨h.id, h.typ, h.chunks⟩

example : (Message.unmarshalText [105, 100, 58, 32, 97, 13, 100, 97, 116, 97, 58, 32, 120, 10, 10]).1 =
    { id := { value := [97], set := true }, chunks := [⟨[120], false⟩] } := by decide

/-! ### hence: no injection through ID or type -/

/-- A message whose ID and type came from any of the routes above, and whose chunks came from
`appendText` or `UnmarshalText`, is well formed, so C02's decoding theorem applies to it:
in particular the wire form of `{ID: id}` decodes to at most one event carrying exactly `id`. -/
theorem id_cannot_inject (mode : Mode) (id₀ : Bytes) (f : MField) (h : f.set = true → NlFree f.value) :
    Spec.run mode false id₀ ({ id := f } : Message).encode .eof =
      (expected mode id₀ [{ id := if f.set then some f.value else none }], .clean) := by
  have hw : WF ({ id := f } : Message) :=
    (wf_iff _).2 ⟨{ fieldsOK_empty with id := h }, Or.inl (by simp [Message.millis])⟩
  have := run_flatMap_encode mode id₀ [({ id := f } : Message)] (by intro m hm; simp at hm; subst hm; exact hw)
  simpa [builtOf, dataOf] using this

/-- `isSingleLine` *as translated from message.go* (through the translated `parser.NewlineIndex`) is the model's
predicate, for every string, and never panics: the gate every construction route passes through. -/
theorem translated_isSingleLine_is_model (fuel : Nat) (p : Bytes) (hf : p.length < fuel) :
    Gen.isSingleLine fuel p = .ok (isSingleLine p) :=
  GenEquiv.isSingleLine_eq fuel p hf

example : Gen.isSingleLine 5 [97, 13, 98] = .ok false := by rfl

/-- `newMessageField`, `(*messageField).UnmarshalText`, `NewID`, `NewType` *as translated from message_fields.go*
return, for every input, exactly the field of the model's routes (`…_set_implies_single_line`,
`…_multiline_leaves_unset` above are about those) and an error exactly when the model reports one. -/
theorem translated_newMessageField_is_model (fuel : Nat) (v : Bytes) (hf : v.length < fuel) :
    Gen.newMessageField fuel v =
      .ok (GenEquiv.toGenF (newMessageField v).1, if (newMessageField v).2 then some "input is multiline" else none) :=
  GenEquiv.newMessageField_eq fuel v hf

theorem translated_UnmarshalText_is_model (fuel : Nat) (prev : Gen.messageField) (data : Bytes) (hf : data.length < fuel)
    (prevM : MField) :
    ∃ err, Gen.messageField_UnmarshalText fuel prev data =
        .ok (err, GenEquiv.toGenF (MField.unmarshalText prevM data).1) ∧
      err.isSome = (MField.unmarshalText prevM data).2 :=
  GenEquiv.UnmarshalText_eq fuel prev data hf prevM

theorem translated_NewID_is_model (fuel : Nat) (v : Bytes) (hf : v.length < fuel) :
    ∃ err, Gen.NewID fuel v = .ok ({ messageField := GenEquiv.toGenF (newID v).1 }, err) ∧ err.isSome = (newID v).2 :=
  GenEquiv.NewID_eq fuel v hf

theorem translated_NewType_is_model (fuel : Nat) (v : Bytes) (hf : v.length < fuel) :
    ∃ err, Gen.NewType fuel v = .ok ({ messageField := GenEquiv.toGenF (newType v).1 }, err) ∧ err.isSome = (newType v).2 :=
  GenEquiv.NewType_eq fuel v hf

/-- consequence, on the translated text itself: whatever `NewID` returns as set contains no CR or LF -/
theorem translated_NewID_set_is_single_line (fuel : Nat) (v : Bytes) (hf : v.length < fuel) (id : Gen.EventID)
    (err : Option String) (h : Gen.NewID fuel v = .ok (id, err)) (hs : id.messageField.set = true) :
    isSingleLine id.messageField.value = true := by
  obtain ⟨err', h', _⟩ := GenEquiv.NewID_eq fuel v hf
  rw [h'] at h
  cases h
  exact (isSingleLine_iff _).2 (newID_wf v hs)

/-- **`(*messageField).Scan` as translated** — the zeroing of the receiver, the nil test, the type switch over
`[]byte` / `string` / anything else, `newMessageField` — returns for every dynamic type of the source and whatever
the receiver held before exactly the model's receiver and error class (`MField.scan`, the function the theorems above
are stated over); it does not panic. -/
theorem translated_Scan_is_model (fuel : Nat) (prev : Gen.messageField) (prevM : MField) (src : ScanSrc)
    (hf : GenEquiv.srcLen src < fuel) :
    Gen.messageField_Scan fuel prev (GenEquiv.toAny src) =
      .ok (GenEquiv.fErrStr (MField.scan prevM src).2, GenEquiv.toGenF (MField.scan prevM src).1) :=
  GenEquiv.Scan_eq fuel prev prevM src hf

/-- **`(*messageField).UnmarshalJSON` as translated**, for **every** decoder (`jsonDecode`: what
`json.Unmarshal(data, &string)` yields — `encoding/json` is not modelled, any function stands for it): the model's
receiver and error class (`MField.unmarshalJSON`). -/
theorem translated_UnmarshalJSON_is_model (fuel : Nat) (prev : Gen.messageField) (prevM : MField) (data : Bytes)
    (jsonDecode : Bytes → Option Bytes) (hf : ∀ v, jsonDecode data = some v → v.length < fuel) :
    Gen.messageField_UnmarshalJSON fuel prev data jsonDecode =
      .ok (GenEquiv.fErrStr (MField.unmarshalJSON prevM data (jsonDecode data)).2,
           GenEquiv.toGenF (MField.unmarshalJSON prevM data (jsonDecode data)).1) :=
  GenEquiv.UnmarshalJSON_eq fuel prev prevM data jsonDecode hf

/-- `(*messageField).MarshalText` as translated: the value when set, an error when unset; the receiver is left alone -/
theorem translated_MarshalText_field (fuel : Nat) (f : MField) :
    Gen.messageField_MarshalText fuel (GenEquiv.toGenF f) =
      .ok (if f.set then some f.value else none, if f.set then none else some "can't marshal unset string to text", GenEquiv.toGenF f) :=
  GenEquiv.MarshalText_field_eq fuel f

example : Gen.messageField_Scan 10 default (.str [97, 10, 98]) = .ok (some "input is multiline", { value := [], set := false }) ∧
    Gen.messageField_Scan 10 default (.bytes [97]) = .ok (none, { value := [97], set := true }) := ⟨rfl, rfl⟩


end GoSSE.Props.C14
