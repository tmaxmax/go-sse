import GoSSE.Proofs.QueueValid
import GoSSE.Props.C08
import GoSSE.Props.C09
/-!
# C18 — replayers retain no evicted or expired messages

The models keep EVERY slot of the backing array (`Queue.buf : List (Option Entry)`, `none` = the
zero value). "Reachable from the replayer" is modelled as "referenced from a slot of the current
backing array"; the Go collector itself is not modelled.
-/
namespace GoSSE.Props.C18
open GoSSE GoSSE.Spec GoSSE.Model GoSSE.Proofs

/-- `slots_bounded`: a FiniteReplayer's backing array has exactly `N` slots — initially
(`C08.new_inv`) and after every `Put` (`C08.put_refines` re-establishes `FInv N`) — so at most
`N` messages are referenced. -/
theorem slots_bounded (N : Nat) (f : Finite) (h : FInv N f) :
    f.buf.buf.length = N ∧ (f.buf.buf.filterMap id).length ≤ N :=
  ⟨h.len, h.len ▸ List.length_filterMap_le _ _⟩

/-- `slots_bounded` along any Put: the array still has `N` slots afterwards -/
theorem slots_bounded_put (N : Nat) (f : Finite) (h : FInv N f) (msg : Nat) (id : EventID) (topics : List Bytes) :
    ∃ r f', f.put msg id topics = .ok (r, f') ∧ f'.buf.buf.length = N ∧ (f'.buf.buf.filterMap _root_.id).length ≤ N := by
  obtain ⟨r, f', hp, hinv, _⟩ := C08.put_refines N f h msg id topics
  exact ⟨r, f', hp, slots_bounded N f' hinv⟩

/-- FiniteReplayer: non-live slots are empty (until the first wrap there are unused slots; they
hold nothing), so the messages referenced from any slot are exactly the stored last-`N` entries:
an evicted message is referenced from no slot. -/
theorem finite_only_stored_referenced (N : Nat) (f : Finite) (h : FInv N f) (i : Nat) (e : Entry)
    (hs : f.buf.buf[i]? = some (some e)) : e ∈ abs f.buf :=
  nonempty_slot_stored h.wf h.dead i e hs

/-- `dead_slots_zero`: in a ValidReplayer every slot outside the live range is zero. It is part
of `VInv`, which `NewValidReplayer` establishes and `Put`/`GC` preserve (`C09.new_inv`,
`C09.put_refines`, `C09.gc_refines`); hence only stored entries are referenced. -/
theorem dead_slots_zero (t : Int) (v : Valid) (h : VInv t v) :
    (∀ i, i < v.messages.buf.length → ¬ isLive v.messages i → v.messages.buf[i]? = some none) ∧
    (∀ (i : Nat) (e : Entry), v.messages.buf[i]? = some (some e) → e ∈ abs v.messages) :=
  ⟨h.dead, fun i e hs => nonempty_slot_stored h.wf h.dead i e hs⟩

/-- `dequeue` zeroes the vacated slot: dead slots stay zero -/
theorem dequeue_zeroes (q : Queue) (h : WF q) (hd : DeadZero q) (hpos : 0 < q.count) :
    ∃ q', q.dequeue = .ok q' ∧ WF q' ∧ DeadZero q' ∧ q'.buf[q.head]? = some none := by
  obtain ⟨q', hdq, hw, _, _, hd'⟩ := dequeue_spec h hpos
  refine ⟨q', hdq, hw, hd' hd, ?_⟩
  rw [dequeue_eq h hpos] at hdq
  cases hdq
  exact List.getElem?_set_self (h.head_lt (h.pos hpos))

/-- `resize` copies only the live range (wrapped, full and empty buffers alike): in the new
array the first `count` slots are the live slots in order and every other slot is zero. -/
theorem resize_copies_live_only (q : Queue) (h : WF q) (hd : DeadZero q) (n : Nat) (hn : q.count < n) :
    ∃ q', q.resize n = .ok q' ∧ q'.buf.length = n ∧ DeadZero q' ∧
      (∀ i, q.count ≤ i → i < n → q'.buf[i]? = some none) := by
  obtain ⟨q', hr, _, hd', _, hl, _⟩ := resize_abs h hd n hn
  refine ⟨q', hr, hl, hd', fun i h1 h2 => ?_⟩
  rw [resize_eq h hd n hn] at hr
  cases hr
  exact append_replicate_getElem? _ _ _ (by rw [slots_length]; exact h1) (by rw [slots_length]; omega)

/-- `after_gc_only_unexpired`: after `doGC now` (explicit `GC`, or the collection `Put` runs once
`GCInterval` has passed) every non-empty slot of the backing array holds an entry with
`exp > now`: no expired message stays referenced. -/
theorem after_gc_only_unexpired (t : Int) (v : Valid) (h : VInv t v) (now : Int) (v' : Valid)
    (hg : v.doGC now = .ok v') (i : Nat) (e : Entry) (hs : v'.messages.buf[i]? = some (some e)) :
    e.exp > now := by
  obtain ⟨q', hg', hinv, ha⟩ := doGC_inv h now
  cases hg.symm.trans hg'
  exact gc_all_unexpired now h.sorted e (ha ▸ nonempty_slot_stored hinv.wf hinv.dead i e hs)


/-- non-vacuity: five Puts (the buffer grows 4 → 8), the TTL passes, `GC`: the array shrinks to 4
slots and no slot references a message any more -/
example :
    let p (v : Valid) (k : Nat) (i : Byte) := match v.put 0 k (some [i]) [[97]] with | .ok (_, v') => v' | .panic => v
    let v := p (p (p (p (p ((newValid 10 false (some 0)).getD ⟨none, none, ⟨[], 0, 0, 0⟩, 0, 0⟩) 0 65) 1 66) 2 67) 3 68) 4 69
    v.messages.buf.length = 8 ∧ v.messages.count = 5 ∧
    (match v.gc 10 with | .ok v' => v'.messages.buf | .panic => []) = [none, none, none, none] := by decide

end GoSSE.Props.C18
