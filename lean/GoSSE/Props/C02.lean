import GoSSE.Proofs.MessageBuild
import GoSSE.Proofs.GenEquivFields
import GoSSE.Props.C01
/-!
# C02 — encoded messages decode to exactly what was appended (no injection)

`build ops` is the model's `Message` after the public-API calls `ops` (`AppendData`,
`AppendComment`, `m.ID, _ = NewID(v)`, `m.Type, _ = NewType(v)`, `m.Retry = d`); `describe ops`
is the specification's reading of the same calls (lines by the WHATWG splitter `splitLines`);
`Spec.run` is the WHATWG interpreter on bytes; `expected` lists the events a client must see.
`BuildOp.Valid` only says that a `Retry` value is an `int64`.
-/
namespace GoSSE.Props.C02
open GoSSE GoSSE.Spec GoSSE.Model GoSSE.Proofs

/-- `appendText` adds, for every string, exactly the lines the WHATWG splitter finds in it
(CR, LF and CRLF each end a line; a non-empty unterminated tail is a line), in order. -/
theorem appendText_lines (m : Message) (isComment : Bool) (strs : List Bytes) :
    (m.appendText isComment strs).chunks = m.chunks ++ (strs.flatMap linesOf).map (fun l => ⟨l, isComment⟩) :=
  appendText_chunks m isComment strs

example : (({} : Message).appendData [[97, 13, 10, 98, 13, 99, 10, 10, 100]]).chunks =
    [⟨[97], false⟩, ⟨[98], false⟩, ⟨[99], false⟩, ⟨[], false⟩, ⟨[100], false⟩] := by decide

/-- every chunk `appendText` creates is a single line: it contains neither CR nor LF -/
theorem appended_chunks_single_line (s : Bytes) : ∀ l ∈ linesOf s, ∀ b ∈ l, b ≠ 10 ∧ b ≠ 13 :=
  fun l hl => (nlFree_iff l).1 (linesOf_nlFree s l hl)

/-- messages built through the API are well formed: single-line chunks, single-line ID and type,
a retry value whose digits fit the 13-byte buffer -/
theorem built_messages_wf (ops : List BuildOp) (hv : ∀ op ∈ ops, BuildOp.Valid op) : WF (build ops) :=
  wf_build ops hv

/-- encode structure: the wire form is the sequence of the message's field lines, each
terminated by one LF, followed by one blank line iff there is any field line -/
theorem encode_structure (m : Message) :
    m.encode = ((if (lines m).isEmpty then [] else lines m ++ [[]]).flatMap (· ++ [10])) := by
  rw [encode_eq]; rfl

/-- A spec-conforming line splitter finds exactly the lines of `encode_structure` in a concatenation of wire
forms, with nothing left over: no payload can add, cut or merge a line. -/
theorem wire_lines_exact (ms : List Message) (h : ∀ m ∈ ms, WF m) :
    splitLines (ms.flatMap Message.encode) [] false = (ms.flatMap msgLines, []) :=
  splitLines_flatMap_encode ms h

/-- Any sequence of messages built through the API, either dispatch rule: the concatenation of the wire
forms decodes to exactly the expected events, and ends cleanly. -/
theorem decode_concat (mode : Mode) (id₀ : Bytes) (scripts : List (List BuildOp))
    (hv : ∀ ops ∈ scripts, ∀ op ∈ ops, BuildOp.Valid op) :
    Spec.run mode false id₀ ((scripts.map build).flatMap Message.encode) .eof =
      (expected mode id₀ (scripts.map describe), .clean) := by
  have := run_flatMap_encode mode id₀ (scripts.map build) (by
    intro m hm
    obtain ⟨ops, ho, rfl⟩ := List.mem_map.1 hm
    exact wf_build ops (hv ops ho))
  rw [List.map_map] at this
  rw [this, show builtOf ∘ build = describe from funext builtOf_build]

/-- Single message: the WHATWG interpreter (either dispatch rule) reads the wire form of a
message built through the API as exactly the expected event (or none), and ends cleanly. -/
theorem decode_single (mode : Mode) (id₀ : Bytes) (ops : List BuildOp) (hv : ∀ op ∈ ops, BuildOp.Valid op) :
    Spec.run mode false id₀ (build ops).encode .eof = (expected mode id₀ [describe ops], .clean) := by
  have := decode_concat mode id₀ [ops] (fun o ho => by rw [List.mem_singleton.1 ho]; exact hv)
  simpa using this

example : Spec.run .gosse false [] (build [.setID [49], .appendData [[97, 10, 100, 97, 116, 97, 58, 32, 120]],
      .appendComment [[10, 10]], .setRetry 1500000]).encode .eof =
    ([.event { lastEventID := [49], type := [], data := [97, 10, 100, 97, 116, 97, 58, 32, 120] }], .clean) := by
  rw [decode_single _ _ _ (by intro op h; simp at h; rcases h with h | h | h | h <;> subst h <;> simp [BuildOp.Valid, maxInt64])]
  decide

/-- Headline, go-sse's dispatch rule: the concatenation of the wire forms of any messages built
through the API decodes to exactly the expected events. -/
theorem decode_concat_gosse (id₀ : Bytes) (scripts : List (List BuildOp))
    (hv : ∀ ops ∈ scripts, ∀ op ∈ ops, BuildOp.Valid op) :
    Spec.run .gosse false id₀ ((scripts.map build).flatMap Message.encode) .eof =
      (expected .gosse id₀ (scripts.map describe), .clean) :=
  decode_concat .gosse id₀ scripts hv

/-- Headline, the pure WHATWG dispatch rule (only messages with data dispatch). -/
theorem decode_concat_whatwg (id₀ : Bytes) (scripts : List (List BuildOp))
    (hv : ∀ ops ∈ scripts, ∀ op ∈ ops, BuildOp.Valid op) :
    Spec.run .whatwg false id₀ ((scripts.map build).flatMap Message.encode) .eof =
      (expected .whatwg id₀ (scripts.map describe), .clean) :=
  decode_concat .whatwg id₀ scripts hv

/-- no injection: at most one event per message, whatever the payloads -/
theorem at_most_one_event_per_message (mode : Mode) (id₀ : Bytes) (bs : List Built) :
    (expected mode id₀ bs).length ≤ bs.length := by
  induction bs generalizing id₀ with
  | nil => simp [expected]
  | cons b bs ih =>
    simp only [expected, List.length_append, List.length_cons]
    have := ih (b.effID.getD id₀)
    split <;> simp <;> omega

/-- no injection: exactly the messages with data produce an event under the WHATWG rule -/
theorem event_count_whatwg (id₀ : Bytes) (bs : List Built) :
    (expected .whatwg id₀ bs).length = (bs.filter fun b => !b.dataLines.isEmpty).length := by
  induction bs generalizing id₀ with
  | nil => simp [expected]
  | cons b bs ih =>
    simp only [expected, List.length_append, ih, Built.dispatches, List.filter_cons]
    by_cases hdl : (!b.dataLines.isEmpty) = true
    · simp only [hdl, if_true, List.length_cons, List.length_nil]; omega
    · simp only [hdl, Bool.false_eq_true, if_false, List.length_nil]; omega

/-- no leak into neighbours: the events of a concatenation are the events of the first part
followed by the events of the second, which depend on the first only through the last event ID -/
theorem neighbours_independent (mode : Mode) (id₀ : Bytes) (a b : List Built) :
    ∃ id₁, expected mode id₀ (a ++ b) = expected mode id₀ a ++ expected mode id₁ b := by
  induction a generalizing id₀ with
  | nil => exact ⟨id₀, by simp [expected]⟩
  | cons x xs ih =>
    obtain ⟨id₁, h⟩ := ih (x.effID.getD id₀)
    exact ⟨id₁, by simp [expected, h]⟩

/-- retry: for every millisecond count an `int64` duration can have (1 … 9 223 372 036 854) the
13-byte buffer loop does not panic and writes the decimal representation: all digits, no leading
zero, value `ms` — i.e. the specification's `retryVal` reads `ms` back. -/
theorem retry_digits (ms : Nat) (h1 : 1 ≤ ms) (h2 : ms ≤ 9223372036854) :
    ∃ ds, retryDigits ms = some ds ∧ Spec.retryVal ds = some ms ∧ ds.head? ≠ some 48 := by
  obtain ⟨ds, hds, hdig, hv, d, t, hdt, hne⟩ := retryDigits_spec ms h1 (by omega)
  refine ⟨ds, hds, ?_, by rw [hdt]; simpa using hne⟩
  have hle : ms ≤ maxInt64 := by unfold maxInt64; omega
  have hne' : ds.isEmpty = false := by rw [hdt]; rfl
  simp [retryVal, hne', hdig, hle, hv]

example : retryDigits 9223372036854 = some [57, 50, 50, 51, 51, 55, 50, 48, 51, 54, 56, 53, 52] := by decide

/-- retry: the digit buffer suffices for every `int64` duration — `WriteTo` never panics -/
theorem writeTo_never_panics {σ ε : Type} (w : Writer σ ε) (st : σ) (m : Message) (h : m.retry ≤ (maxInt64 : Int)) :
    (m.writeTo w st).panic = false := by
  rw [writeTo_body w st m (retryOK_of_le m h)]
  simp only
  have hp : (writeAll w (r0 st) m.bodyWrites).panic = false := by rw [writeAll_panic]; rfl
  split
  · exact hp
  · split
    · exact hp
    · simpa [WR.write] using hp

/-- **Decoding by go-sse's own parser, under every segmentation.** However the wire form of any sequence of
messages is cut into reads, whatever the buffer configuration, `sse.Read` (model `implRun`, tied to the
specification by `C01.read_conforms_or_toolong`) yields exactly the expected events and no error — unless the
size limit is hit, in which case it has yielded a prefix of them. -/
theorem own_parser_decodes_concat (id₀ : Bytes) (scripts : List (List BuildOp))
    (hv : ∀ ops ∈ scripts, ∀ op ∈ ops, BuildOp.Valid op) (src : Source) (cfg : Option (Nat × Int))
    (hsrc : src.chunks.flatten = (scripts.map build).flatMap Message.encode) (hend : src.endErr = false) :
    let r := implRun false id₀ src cfg
    (r.2.1 = PErr.tooLong ∧ r.1 <+: expected .gosse id₀ (scripts.map describe)) ∨
    (r.1 = expected .gosse id₀ (scripts.map describe) ∧ r.2.1 = PErr.none) := by
  have hc := GoSSE.Props.C01.read_conforms_or_toolong false id₀ src cfg
  have hd := decode_concat_gosse id₀ scripts hv
  simp only [hsrc, hend, Bool.false_eq_true, if_false, hd] at hc
  simpa [GoSSE.Proofs.endErr] using hc

/-- `Message.appendText` *as translated from message.go* — the range loop over the arguments with the
`for c != ""` / `parser.NextChunk` / `append` loop inside — leaves, for every message, flag and argument list,
exactly the chunk list of the model's `appendText` (the function `appendText_lines` and
`appended_chunks_single_line` above are about), touching no other field, never panicking, its loops ending. -/
theorem translated_appendText_is_model (fuel : Nat) (e : Gen.Message) (isComment : Bool) (strs : List Bytes)
    (m : Message) (he : e.chunks = m.chunks.map GenEquiv.gC) (hf : ∀ c ∈ strs, c.length + 1 < fuel)
    (hn : strs.length < fuel) :
    Gen.Message_appendText fuel e isComment strs =
      .ok { e with chunks := (m.appendText isComment strs).chunks.map GenEquiv.gC } := by
  rw [GenEquiv.appendText_chunks]
  exact GenEquiv.appendText_eq fuel e isComment strs m.chunks he hf hn

/-- non-vacuity: the translated `AppendData("a\r\nb", "c")` on an empty message yields three data chunks -/
example :
    (Gen.Message_AppendData 9 { chunks := [], ID := ⟨⟨[], false⟩⟩, Type' := ⟨⟨[], false⟩⟩, Retry := 0 }
        [[97, 13, 10, 98], [99]]).map (·.chunks) =
      .ok [⟨[97], false⟩, ⟨[98], false⟩, ⟨[99], false⟩] := by rfl

end GoSSE.Props.C02
