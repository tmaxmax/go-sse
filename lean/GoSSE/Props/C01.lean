import GoSSE.Proofs.GenEquiv
import GoSSE.Proofs.GenEquivEvent
import GoSSE.Proofs.Lines
import GoSSE.Proofs.ParserRun
import GoSSE.Proofs.ParserStop
import GoSSE.Proofs.ParserToken
/-!
# C01 — event-stream interpretation conforms to the WHATWG algorithm
-/
namespace GoSSE.Props.C01
open GoSSE GoSSE.Spec GoSSE.Model GoSSE.Proofs

/-- go-sse's line discipline (`NewlineIndex` + `NextChunk`, iterated as `FieldParser.Next`
does) produces exactly the lines, and the unterminated rest, that the WHATWG byte-at-a-time
splitter produces — for every byte string. -/
theorem lines_conform (s : Bytes) : chunks (s.length + 1) s = splitLines s [] false :=
  chunks_eq_splitLines _ s (by omega)

/-- non-vacuity: a CRLF/CR/LF mix -/
example : chunks 100 [100, 13, 10, 101, 13, 102, 10, 103] = ([[100], [101], [102]], [103]) := by decide

/-- One line: `scanSegment` followed by one iteration of the `switch` in `read()` does to the
interpreter state exactly what the specification's `procLine` does — for every byte string
`l`, both entry points. (`CleanInv`: `read()` clears `typ` and `sb` whenever it clears `dirty`.) -/
theorem line_conforms (conn : Bool) (st : RState) (l : Bytes) (h : CleanInv st) :
    procLine .gosse conn (toI st) l = (toI (lineStep conn st l).1, (lineStep conn st l).2) ∧
    CleanInv (lineStep conn st l).1 :=
  lineStep_conforms conn st l h

/-- non-vacuity of `CleanInv`: the initial state of `read()` -/
example (lastID : Bytes) : CleanInv { lastID := lastID } := by simp [CleanInv]

/-- One token: draining the `FieldParser` over a token (`drainFP` = the loop of `read()`
restricted to one `Reset`) interprets exactly the lines the specification's splitter finds in it,
and `FieldParser.Err` is set iff the token ends in an unterminated line. -/
theorem token_fields_conform (conn : Bool) (tok : Bytes) (st : RState) (h : CleanInv st) :
    let r := drainFP conn (tok.length + 1) { data := tok } st []
    let sp := splitLines tok [] false
    interp .gosse conn (toI st) sp.1 = (toI r.2.1, r.2.2) ∧ r.1.err = !sp.2.isEmpty :=
  token_fields conn tok st h

/-- One `splitFunc` step before the end of the input: if it returns `(adv, tok)`, then running
the specification over the `adv` consumed bytes (skipped blank lines included) from an event
boundary — whether or not an LF is still to be swallowed (`sk`) — gives what `read()` makes of
`tok`, leaves no partial line, and ends at an event boundary again, without `ErrUnexpectedEOF`. -/
theorem token_step_conforms (conn : Bool) (data : Bytes) (adv : Nat) (tok : Bytes) (st : RState) (sk : Bool)
    (hsplit : splitFunc data false = (adv, some tok)) (h : CleanInv st) (hb : Boundary (toI st)) :
    let r := drainFP conn (tok.length + 1) { data := tok } st []
    let sp := splitLines (data.take adv) [] sk
    interp .gosse conn (toI st) sp.1 = (toI r.2.1, r.2.2) ∧ sp.2 = [] ∧
    Boundary (toI r.2.1) ∧ r.1.err = false ∧ adv ≤ data.length :=
  token_step conn data adv tok st sk hsplit h hb

/-- non-vacuity: a buffer "\n\rdata:x\r\n\rid" holds the token "data:x\r\n\r" after two blank-line bytes -/
example : splitFunc [10, 13, 100, 97, 116, 97, 58, 120, 13, 10, 13, 105, 100] false =
    (11, some [100, 97, 116, 97, 58, 120, 13, 10, 13]) ∧
    Boundary (toI { lastID := [] }) ∧ CleanInv { lastID := [] } := by
  refine ⟨by decide, by simp [Boundary, toI], by simp [CleanInv]⟩

/-- **Refinement.** For every source (every chunking of every byte string, both end kinds,
error delivered with the last bytes or not), both entry points, every scanner configuration
and every initial last-event ID: either the run ends in `bufio.ErrTooLong` and what was yielded
until then is a prefix of what the WHATWG specification prescribes, or events, retry reports and
the final error are exactly those of the specification. (The `io.Reader` contract "no empty
reads" is not needed by the model.) -/
theorem read_conforms_or_toolong (conn : Bool) (lastID : Bytes) (src : Source) (cfg : Option (Nat × Int)) :
    let r := implRun conn lastID src cfg none
    let sp := Spec.run .gosse conn lastID src.chunks.flatten (if src.endErr then .err else .eof)
    (r.2.1 = PErr.tooLong ∧ r.1 <+: sp.1) ∨ (r.1 = sp.1 ∧ r.2.1 = endErr conn sp.2) :=
  implRun_conforms conn lastID src cfg

/-- How the bytes are cut into reads does not matter (as long as no run hits the scanner's
token limit): same bytes, same end kind ⇒ same events, retries and error. -/
theorem segmentation_independent (conn : Bool) (lastID : Bytes) (src₁ src₂ : Source)
    (cfg₁ cfg₂ : Option (Nat × Int))
    (hbytes : src₁.chunks.flatten = src₂.chunks.flatten) (hend : src₁.endErr = src₂.endErr)
    (h₁ : (implRun conn lastID src₁ cfg₁ none).2.1 ≠ PErr.tooLong)
    (h₂ : (implRun conn lastID src₂ cfg₂ none).2.1 ≠ PErr.tooLong) :
    (implRun conn lastID src₁ cfg₁ none).1 = (implRun conn lastID src₂ cfg₂ none).1 ∧
    (implRun conn lastID src₁ cfg₁ none).2.1 = (implRun conn lastID src₂ cfg₂ none).2.1 := by
  have a₁ := implRun_conforms conn lastID src₁ cfg₁
  have a₂ := implRun_conforms conn lastID src₂ cfg₂
  simp only at a₁ a₂
  rw [hbytes, hend] at a₁
  rcases a₁ with ⟨e, _⟩ | ⟨o₁, e₁⟩
  · exact absurd e h₁
  rcases a₂ with ⟨e, _⟩ | ⟨o₂, e₂⟩
  · exact absurd e h₂
  exact ⟨o₁.trans o₂.symm, e₁.trans e₂.symm⟩

/-- non-vacuity: the same stream whole and byte-pair-wise -/
example : (implRun true [] { chunks := [[100, 97, 116, 97, 58, 120, 10, 10]], endErr := false } none none).2.1 ≠ PErr.tooLong ∧
    (implRun true [] { chunks := [[100, 97], [116, 97], [58, 120], [10, 10]], endErr := false } none none).2.1 ≠ PErr.tooLong := by
  decide

/-- A consumer that returns `false` from its `k`-th event yield sees exactly the first `k`
event yields of the full run (with the retries reported before the `k`-th event); if the run
was cut no error is yielded; if the full run has fewer than `k` events nothing changes. -/
theorem early_stop_is_prefix (conn : Bool) (lastID : Bytes) (src : Source) (cfg : Option (Nat × Int))
    (k : Nat) (hk : 1 ≤ k) :
    let r := implRun conn lastID src cfg none
    let rk := implRun conn lastID src cfg (some k)
    rk.1 = takeEvents k r.1 ∧
    (k ≤ countEvents r.1 → rk.2.1 = PErr.none) ∧
    (countEvents r.1 < k → rk = r) :=
  implRun_early_stop conn lastID src cfg k hk


/-! `NewlineIndex`, `NextChunk`, `trimFirstSpace`, `getFieldName` and the methods of `FieldParser` *as translated from
chunk.go, field.go and field_parser.go* compute exactly the functions of the model the theorems above are about,
and never panic. -/

theorem translated_NewlineIndex_is_model (fuel : Nat) (s : Bytes) (hf : s.length < fuel) :
    Gen.NewlineIndex fuel s = .ok (((newlineIndex s).1 : Int), ((newlineIndex s).2 : Int)) :=
  GenEquiv.NewlineIndex_eq fuel s hf

theorem translated_NextChunk_is_model (fuel : Nat) (s : Bytes) (hf : s.length < fuel) :
    Gen.NextChunk fuel s = .ok (nextChunk s) :=
  GenEquiv.NextChunk_eq fuel s hf

theorem translated_scanSegment_is_model (fuel : Nat) (f : Gen.FieldParser) (chunk : Bytes) (out : Gen.Field) :
    Gen.FieldParser_scanSegment fuel f chunk out =
      .ok (match scanSegment f.keepComments chunk with
           | some fld => (true, f, GenEquiv.fieldOf fld)
           | none => (false, f, out)) :=
  GenEquiv.scanSegment_eq fuel f chunk out

/-- `FieldParser.Next`: same result, same field, same state (`absFP` reads the translated struct as the model's) -/
theorem translated_FieldParser_Next_is_model (fuel : Nat) (f : Gen.FieldParser) (out : Gen.Field)
    (hf : f.data.length + 1 < fuel) :
    ∃ f' out' ok, Gen.FieldParser_Next fuel f out = .ok (ok, f', out') ∧
      GenEquiv.absFP f' = (FP.next (f.data.length + 1) (GenEquiv.absFP f)).2 ∧
      (match (FP.next (f.data.length + 1) (GenEquiv.absFP f)).1 with
       | some fld => ok = true ∧ out' = GenEquiv.fieldOf fld
       | none => ok = false ∧ out' = out) :=
  GenEquiv.Next_eq fuel f out hf

theorem translated_FieldParser_Reset_is_model (fuel : Nat) (f : Gen.FieldParser) (data : Bytes) :
    ∃ f', Gen.FieldParser_Reset fuel f data = .ok f' ∧ GenEquiv.absFP f' = (GenEquiv.absFP f).reset data ∧ f'.err = none :=
  GenEquiv.Reset_eq fuel f data

theorem translated_FieldParser_RemoveBOM_is_model (fuel : Nat) (f : Gen.FieldParser) (b : Bool) :
    ∃ f', Gen.FieldParser_RemoveBOM fuel f b = .ok f' ∧ GenEquiv.absFP f' = (GenEquiv.absFP f).setRemoveBOM b ∧
      f'.err = f.err :=
  GenEquiv.RemoveBOM_eq fuel f b

/-- non-vacuity: the translated `NextChunk` on "ab\r\ncd" -/
example : Gen.NextChunk 8 [97, 98, 13, 10, 99, 100] = .ok ([97, 98], [99, 100], true) := by rfl


/-! #### The interpreter: event.go's `read` as translated

`GoSSE/Gen/Event.lean` holds `read` — the iterator both `sse.Read` and the client's connection are built on — as
translated from event.go: the `for p.Next(&f)` loop, the `switch` over the field names (data buffer, event type, the
NUL check of ids, the digits-only and `ParseInt` checks of `retry`, dispatch on the blank line through the local
function literal `doYield`), and what happens at the end of the stream (the pending event is dispatched only at a
clean EOF; `Read` swallows EOF, a connection reports it). `parser.Parser` is not translated (`parser.New` installs a
split function that writes to the parser from inside `bufio.Scanner.Scan`): `read` takes its fields from an interface
(`GoRT.ParserI`), instantiated here with the hand-written model of the parser (`parserI`), whose pieces — `splitFunc`,
`bufio.Scanner.Scan`, `FieldParser.Next` — are themselves proved equal to the translated source above. The consumer
records what it is given and stops at its `k`-th event (`yieldOf`), a connection's `onRetry` records the value. -/

theorem translated_read_is_model (conn : Bool) (stopAt : Option Nat) (lastID : Bytes) (src : Source) (cfg : Option (Nat × Int))
    (fuel : Nat) (hs : stopped stopAt [] = false) (hF : src.size + 4 < fuel) :
    Gen.read fuel (pure (GenEquiv.parserI { sc := mkScanner src cfg })) lastID (GenEquiv.onRetryOf conn) (!conn)
        (GenEquiv.yieldOf stopAt) {} =
      .ok { outs := (implRun conn lastID src cfg stopAt).1, err := GenEquiv.perrStr (implRun conn lastID src cfg stopAt).2.1 } := by
  have hinv := ClientRead.mkScanner_inv src cfg
  have hM : ClientRead.M3 ({ sc := mkScanner src cfg } : Parser) + 1 ≤ src.size + 4 := by
    simp only [ClientRead.M3, ClientRead.M, hinv.2.1, hinv.2.2]
    simp
  rw [GenEquiv.read_eq conn stopAt lastID { sc := mkScanner src cfg } (src.size + 4) fuel hinv.1 hM hF hs]
  have h := GenEquiv.implRun_runFrom conn lastID src cfg stopAt
  rw [← h]

/-- … hence, with `read_conforms_or_toolong`: what the translated `read` hands a consumer that never stops is the
WHATWG specification's output, unless the run ends in `bufio.ErrTooLong` (then a prefix of it). -/
theorem translated_read_conforms (conn : Bool) (lastID : Bytes) (src : Source) (cfg : Option (Nat × Int)) (fuel : Nat)
    (hF : src.size + 4 < fuel) :
    ∃ c : GenEquiv.Cons,
      Gen.read fuel (pure (GenEquiv.parserI { sc := mkScanner src cfg })) lastID (GenEquiv.onRetryOf conn) (!conn)
        (GenEquiv.yieldOf none) {} = .ok c ∧
      let sp := Spec.run .gosse conn lastID src.chunks.flatten (if src.endErr then .err else .eof)
      ((c.err = some "TOOLONG" ∧ c.outs <+: sp.1) ∨ (c.outs = sp.1 ∧ c.err = GenEquiv.perrStr (endErr conn sp.2))) := by
  refine ⟨_, translated_read_is_model conn none lastID src cfg fuel rfl hF, ?_⟩
  have h := read_conforms_or_toolong conn lastID src cfg
  simp only at h ⊢
  rcases h with ⟨h1, h2⟩ | ⟨h1, h2⟩
  · left; exact ⟨by rw [h1]; rfl, h2⟩
  · right; exact ⟨h1, by rw [h2]⟩

end GoSSE.Props.C01
