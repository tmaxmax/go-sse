import GoSSE.Proofs.GenEquivQueue
import GoSSE.Proofs.GenEquivReplay
import GoSSE.Proofs.GenEquiv
import GoSSE.Proofs.QueueFinite
/-!
# C08 — FiniteReplayer is a bounded FIFO of the last N events

The model (`Model/Queue.lean`, `Model/Finite.lean`) follows `replay.go` function by function;
the specification (`Spec/Replay.lean`) is a plain list. `abs f.buf` reads the ring buffer as
the list of stored entries (from `head`, `count` of them, conditional wrap); `FInv N f` is the
invariant (`wf`: `count ≤ N`, `head, tail < N`, `head + count ≡ tail`, live slots non-empty;
`buf.length = N`; automatic IDs consecutive; dead slots zero). Everything holds for every
capacity `N ≥ 2`, both ID modes and every reachable `(head, tail, count)`.
-/
namespace GoSSE.Props.C08
open GoSSE GoSSE.Spec GoSSE.Model GoSSE.Proofs

/-- `NewFiniteReplayer` rejects `N < 2`; otherwise the new replayer satisfies the invariant and
stands for the empty specification state. -/
theorem new_inv (N : Nat) (auto : Bool) :
    (N < 2 → newFinite N auto = none) ∧
    (2 ≤ N → ∃ f, newFinite N auto = some f ∧ FInv N f ∧ fspec f = State.init auto) := by
  constructor
  · intro h; simp [newFinite, h]
  · intro h
    simp only [newFinite, show ¬ N < 2 from by omega, if_false]
    refine ⟨_, rfl, ?_, ?_⟩
    · exact ⟨wf_new N, List.length_replicate, h, AutoOK.empty _ rfl, deadZero_new N⟩
    · simp [fspec, abs_nil_of_count, State.init]

/-- `put_refines` (with `wf_preserved`): `Put` never panics, preserves the invariant, and acts on
the abstraction exactly as the specification's `put`: rejected Puts change nothing, accepted ones
append the ID-carrying copy and keep the last `N` entries
(`abs (put q m) = (abs q ++ [m']).takeLast N`). -/
theorem put_refines (N : Nat) (f : Finite) (h : FInv N f) (msg : Nat) (id : EventID) (topics : List Bytes) :
    ∃ r f', f.put msg id topics = .ok (r, f') ∧ FInv N f' ∧
      (r, fspec f') = Spec.put (some N) (fspec f) msg id topics 0 := by
  unfold Finite.put Spec.put
  by_cases ht : topics.isEmpty = true
  · simp only [ht, if_true]
    exact ⟨_, _, rfl, h, rfl⟩
  · simp only [ht, if_false, Bool.false_eq_true, ensureID_eq, fspec]
    cases ha : assignID f.currentID id with
    | error e => exact ⟨_, _, rfl, h, rfl⟩
    | ok p =>
      obtain ⟨id', cur'⟩ := p
      obtain ⟨q', he, hinv, habs⟩ := h.enqueue ha msg topics
      simp only [he]
      exact ⟨_, _, rfl, hinv, by rw [habs]⟩

/-- `wf_preserved`, spelled out: after any `Put` on a replayer satisfying the invariant,
`count ≤ N`, `head, tail < N`, `head + count ≡ tail (mod N)`, full ↔ `head = tail ∧ count ≠ 0`,
the backing array still has `N` slots, and the `count` slots from `head` are non-empty. -/
theorem wf_preserved (N : Nat) (f : Finite) (h : FInv N f) (msg : Nat) (id : EventID) (topics : List Bytes) :
    ∃ r f', f.put msg id topics = .ok (r, f') ∧ f'.buf.buf.length = N ∧ f'.buf.count ≤ N ∧
      f'.buf.head < N ∧ f'.buf.tail < N ∧
      (f'.buf.head + f'.buf.count = f'.buf.tail ∨ f'.buf.head + f'.buf.count = f'.buf.tail + N) ∧
      (f'.buf.count = N ↔ (f'.buf.head = f'.buf.tail ∧ f'.buf.count ≠ 0)) ∧
      (abs f'.buf).length = f'.buf.count := by
  obtain ⟨r, f', hp, ⟨hw, rfl, hc, _, _⟩, _⟩ := put_refines N f h msg id topics
  exact ⟨r, f', hp, rfl, hw.cnt, hw.head_lt (by omega), hw.tail_lt (by omega), hw.ring, hw.full_iff (by omega),
    abs_length hw⟩

/-- the three rejections leave the replayer — buffer and counter — untouched -/
theorem put_rejected_unchanged (f : Finite) (msg : Nat) (id : EventID) (topics : List Bytes)
    (e : PutErr) (f' : Finite) (h : f.put msg id topics = .ok (.error e, f')) : f' = f := by
  rcases put_inv h with ⟨rfl, _⟩ | ⟨_, _, _, _, hr⟩
  · rfl
  · cases hr

/-- which Puts are rejected: no topics; no ID in manual mode; an ID in automatic mode -/
theorem put_rejects_iff (N : Nat) (f : Finite) (h : FInv N f) (msg : Nat) (id : EventID) (topics : List Bytes) :
    (∃ e f', f.put msg id topics = .ok (.error e, f')) ↔
      (topics = [] ∨ (f.currentID = none ∧ id = none) ∨ (f.currentID ≠ none ∧ id ≠ none)) := by
  rw [← assignID_error_iff]
  unfold Finite.put
  cases topics with
  | nil => simp
  | cons t ts =>
    simp only [List.isEmpty_cons, Bool.false_eq_true, if_false, ensureID_eq, reduceCtorEq, false_or]
    cases assignID f.currentID id with
    | error e => simp
    | ok p => cases he : f.buf.enqueue { msg := msg, id := p.1, topics := t :: ts, exp := 0 } <;> simp [he]

/-- automatic mode: an accepted Put returns the decimal numeral of the counter and increments it;
so the `k`-th accepted Put gets decimal `k` (the counter starts at 0, `new_inv`, and rejected
Puts do not touch it, `put_rejected_unchanged`) -/
theorem auto_ids_consecutive (f : Finite) (k : Nat) (hk : f.currentID = some k)
    (msg : Nat) (id : EventID) (topics : List Bytes) (e : Entry) (f' : Finite)
    (h : f.put msg id topics = .ok (.ok e, f')) :
    e.id = some (decimal k) ∧ f'.currentID = some (k + 1) := by
  rcases put_inv h with ⟨_, _, hr⟩ | ⟨id', cur', ha, hc, hr⟩
  · cases hr
  · rw [hk] at ha
    cases assignID_auto ha
    cases hr
    exact ⟨rfl, hc⟩

/-- `replay_refines`: `Replay` never panics and makes exactly the calls the specification
prescribes: no call if nothing follows the presented ID (unset, absent, newest; evicted with
manual IDs), otherwise `Send` for the entries after it whose topics intersect the subscription's,
in Put order, up to and including the first failing `Send`, and then one `Flush` iff no `Send`
failed. (Automatic mode: the counter has not wrapped a `uint64`.) -/
theorem replay_refines (N : Nat) (f : Finite) (h : FInv N f)
    (hcur : ∀ c, f.currentID = some c → c ≤ maxUint64 + 1) (sub : Sub) :
    f.replay sub = .ok (replayOut f.currentID.isSome (fun _ => true) (abs f.buf) sub) :=
  replay_core h.wf _ rfl h.auto hcur sub fun _ => true


/-- `auto_ids_consecutive` over whole histories: in automatic mode the accepted Puts of ANY
history (valid and invalid Puts interleaved, any length relative to `N`) return the decimal
numerals `c, c+1, c+2, …` in Put order, `c` being the counter at the start — 0 for a new replayer. -/
theorem auto_ids_history (N : Nat) (f : Finite) (h : FInv N f) (c : Nat) (hc : f.currentID = some c)
    (ps : List PutIn) :
    ∃ rs f', runPuts f ps = .ok (rs, f') ∧ FInv N f' ∧
      acceptedIDs rs = (List.range' c (acceptedIDs rs).length).map fun k => some (decimal k) := by
  induction ps generalizing f c with
  | nil => exact ⟨[], f, rfl, h, rfl⟩
  | cons p ps ih =>
    obtain ⟨r, f1, hp, hinv1, _⟩ := put_refines N f h p.msg p.id p.topics
    cases r with
    | error e =>
      cases put_rejected_unchanged f p.msg p.id p.topics e f1 hp
      obtain ⟨rs, f', hr, hinv', hids⟩ := ih f h c hc
      exact ⟨_, f', runPuts_cons hp hr, hinv', hids⟩
    | ok e =>
      obtain ⟨hid, hc1⟩ := auto_ids_consecutive f c hc p.msg p.id p.topics e f1 hp
      obtain ⟨rs, f', hr, hinv', hids⟩ := ih f1 hinv1 (c + 1) hc1
      refine ⟨_, f', runPuts_cons hp hr, hinv', ?_⟩
      simp only [acceptedIDs, List.length_cons, List.range'_succ, List.map_cons, hid]
      rw [← hids]

/-- a new automatic replayer numbers its accepted Puts 0, 1, 2, … -/
theorem auto_ids_from_zero (N : Nat) (hN : 2 ≤ N) (ps : List PutIn) :
    ∃ f rs f', newFinite N true = some f ∧ runPuts f ps = .ok (rs, f') ∧
      acceptedIDs rs = (List.range (acceptedIDs rs).length).map fun k => some (decimal k) := by
  obtain ⟨f, hf, hinv, hs⟩ := (new_inv N true).2 hN
  have hc : f.currentID = some 0 := by
    have := congrArg State.next hs
    simpa [fspec, State.init] using this
  obtain ⟨rs, f', hr, _, hids⟩ := auto_ids_history N f hinv 0 hc ps
  exact ⟨f, rs, f', hf, hr, by rw [List.range_eq_range']; exact hids⟩

/-! ### what `after` means (the specification read against the property's wording) -/

/-- manual IDs: the ID of a stored event (its first occurrence, if IDs repeat) replays exactly the
later stored events; with distinct IDs this is the property as written -/
theorem after_stored_manual (a b : List Entry) (e : Entry) (hfirst : ∀ x ∈ a, x.id ≠ e.id) :
    after false e.id (a ++ e :: b) = b := by
  show afterManual e.id (a ++ e :: b) = b
  rw [afterManual_first e.id _ a.length (by simp) (by simp) fun k' h' => by
    rw [List.getElem_append_left h']; exact hfirst _ (List.getElem_mem h')]
  simp

/-- manual IDs: the newest ID replays nothing -/
theorem after_newest_manual (a : List Entry) (e : Entry) (hfirst : ∀ x ∈ a, x.id ≠ e.id) :
    after false e.id (a ++ [e]) = [] := after_stored_manual a [] e hfirst

/-- manual IDs: an ID that no stored event carries — unset, never issued, or evicted — replays nothing -/
theorem after_absent_manual (l : List Entry) (id : EventID) (h : ∀ x ∈ l, x.id ≠ id) : after false id l = [] :=
  afterManual_none id l h

/-- automatic IDs (stored IDs are the consecutive decimals below the counter `cur`): the `k`-th
stored ID replays exactly the later stored events; in particular the newest replays nothing -/
theorem after_stored_auto (l : List Entry) (cur : Nat) (h : Consec l cur) (hcur : cur ≤ maxUint64 + 1)
    (k : Nat) (hk : k < l.length) : after true l[k].id l = l.drop (k + 1) := by
  have hnum : idNum l[k].id = some (cur - l.length + k) := by
    rw [h.2 k hk]
    exact decimal?_decimal _ (by have := h.1; omega)
  refine (afterAuto_consec h hcur _ _ hnum).trans ?_
  congr 1; have := h.1; omega

theorem after_newest_auto (l : List Entry) (cur : Nat) (h : Consec l cur) (hcur : cur ≤ maxUint64 + 1)
    (hne : 0 < l.length) : after true (l[l.length - 1]'(by omega)).id l = [] := by
  rw [after_stored_auto l cur h hcur (l.length - 1) (by omega)]
  apply List.drop_of_length_le; omega

/-- automatic IDs: IDs are compared as numbers. A number not yet issued (or the newest) replays
nothing; a number below the oldest stored one replays everything stored; a presented ID that is
not a decimal `uint64` (unset, non-numeric, overflowing) replays nothing. -/
theorem after_auto_numeric (l : List Entry) (cur : Nat) (h : Consec l cur) (hcur : cur ≤ maxUint64 + 1)
    (id : EventID) :
    (idNum id = none → after true id l = []) ∧
    (∀ n, idNum id = some n → cur ≤ n + 1 → after true id l = []) ∧
    (∀ n, idNum id = some n → n + l.length < cur → after true id l = l) := by
  refine ⟨?_, ?_, ?_⟩
  · intro hn; show afterAuto id l = []; rw [afterAuto, hn]
  · intro n hn hge
    exact (afterAuto_consec h hcur _ _ hn).trans (List.drop_of_length_le (by have := h.1; omega))
  · intro n hn hlt
    refine (afterAuto_consec h hcur _ _ hn).trans ?_
    rw [show n + 1 - (cur - l.length) = 0 by omega]; rfl

/-- `"007"` denotes 7; `"18446744073709551616"`, `"+1"` and the empty string denote nothing -/
example : idNum (some [48, 48, 55]) = some 7 ∧
    idNum (some [49,56,52,52,54,55,52,52,48,55,51,55,48,57,53,53,49,54,49,54]) = none ∧
    idNum (some [43, 49]) = none ∧ idNum (some []) = none ∧ idNum none = none := by decide

/-- non-vacuity and regression (fixed defect, commit 5493bb9): N = 3, manual IDs, exactly three
Puts (the write index has just wrapped); the newest ID replays nothing, the oldest replays the
other two and flushes. -/
example :
    let p (f : Finite) (k : Nat) (i : Byte) := match f.put k (some [i]) [[97]] with | .ok (_, f') => f' | .panic => f
    let f := p (p (p ((newFinite 3 false).getD ⟨none, ⟨[], 0, 0, 0⟩⟩) 0 65) 1 66) 2 67
    f.buf.tail = 0 ∧ f.buf.count = 3 ∧
    f.replay ⟨some [67], [[97]], none, false⟩ = .ok ⟨[], .nil⟩ ∧
    f.replay ⟨some [65], [[97]], none, false⟩ =
      .ok ⟨[.send ⟨1, some [66], [[97]], 0⟩, .send ⟨2, some [67], [[97]], 0⟩, .flush], .nil⟩ := by decide


/-- `topicsIntersect` *as translated from replay.go* (two nested range loops with an early return) is the model's
function for all topic lists, and never panics. -/
theorem translated_topicsIntersect_is_model (fuel : Nat) (a b : List Bytes) (hfa : a.length < fuel) (hfb : b.length < fuel) :
    Gen.topicsIntersect fuel a b = .ok (topicsIntersect a b) :=
  GenEquiv.topicsIntersect_eq fuel a b hfa hfb

example : Gen.topicsIntersect 4 [[97], [98]] [[99], [98]] = .ok true := by rfl


/-- `queue[T].enqueue` *as translated from replay.go* (generic code instantiated at a message slot; the element
assignment `q.buf[q.tail] = v` a checked operation) produces, from every queue state, exactly the state of the
model's `enqueue` the theorems above are about — and panics exactly where the model says so (never, from a
well-formed state: `wf_preserved`). -/
theorem translated_enqueue_is_model (fuel : Nat) (q : Queue) (v : Entry) :
    GenEquiv.Agrees (Gen.queue_enqueue fuel (GenEquiv.toGen q) (some v)) (Queue.enqueue q v) :=
  GenEquiv.enqueue_eq fuel q v


/-! #### `FiniteReplayer` itself, as translated

`GoSSE/Gen/Replay.lean` holds `ensureID`, `queue.each` (an iterator: a function of what the function literal it is
applied to does with its state), `findIDInQueue` (generic, with the method `ID()` of its type parameter as a
dictionary), `NewFiniteReplayer`, `FiniteReplayer.Put` and `FiniteReplayer.Replay` as translated from replay.go.
A model replayer `f` is represented by `toGenFin mk f`: counters cast, every slot mapped — the zero slot to the zero
value, an entry `e` to the message `mk e` with `e`'s topics; `mk` is any assignment of messages to entries that
carries the entry's ID (`CarriesID`). The subscriber is any `MessageWriter`; the model's one (`failAt`-th Send
fails, Flush may) is `recW`, whose state is the list of calls it saw. -/

/-- a message assignment that meets `CarriesID`: the hypotheses below are satisfiable -/
def mk0 (e : Entry) : Gen.Message :=
  { chunks := [{ content := [109], isComment := false }], ID := GenEquiv.genID e.id,
    Type' := { messageField := { value := [], set := false } }, Retry := 0 }
example : GenEquiv.CarriesID mk0 := fun _ => rfl

/-- `ensureID` as translated: the model's verdict; with automatic IDs the result differs from the caller's message
in its ID only (the caller's message is an input, nothing is written back to it — C19), and the counter moves on by
one (`cur + 1 < 2^64`: wrap-around is out of scope, as in the model). -/
theorem translated_ensureID_is_model (fuel : Nat) (m : Gen.Message) (id : EventID) (hm : m.ID = GenEquiv.genID id)
    (cur : Option Nat) (hc : ∀ c, cur = some c → c + 1 < 18446744073709551616)
    (hf : ∀ c, cur = some c → (fmtUint c).length < fuel) :
    Gen.ensureID fuel m (GenEquiv.genCur cur) =
      match Model.ensureID id cur with
      | .error e => .ok (none, some (GenEquiv.putErrStr e), GenEquiv.genCur cur)
      | .ok (id', cur') => .ok (some { m with ID := GenEquiv.genID id' }, none, GenEquiv.genCur cur') :=
  GenEquiv.ensureID_eq fuel m id hm cur hc hf

/-- `queue.each` as translated, applied to any function literal that agrees with a callback of the model on the
buffer's slots (under an invariant `P` of the callback's state): the model's final state, the queue untouched, a
panic exactly where the model has one. -/
theorem translated_each_is_model {T κ σ : Type} [Inhabited T] (P : σ → Prop) (g : Slot → T) (r : σ → κ)
    (yield : Int → T → κ → GoRT.GoM (Bool × κ)) (f : σ → Nat → Slot → QRes (σ × Bool)) (q : Queue)
    (hy : GenEquiv.YieldAgrees q.buf P g r yield f) (startAt : Nat) (s : σ) (hP : P s) (fuel : Nat)
    (hf : q.tail + q.buf.length + 1 < fuel) :
    GenEquiv.AgreesV (fun s' => (GenEquiv.toGenQ g q, r s'))
      (Gen.queue_each fuel (GenEquiv.toGenQ g q) (startAt : Int) yield (r s)) (Queue.each q startAt f s) :=
  GenEquiv.each_eq P g r yield f q hy startAt s hP fuel hf

/-- `findIDInQueue` as translated (uint64 arithmetic modulo 2^64, `int`↔`uint64` conversions as Go defines them):
the model's index for every queue state — well-formed or not —, every presented ID and both ID modes. -/
theorem translated_findIDInQueue_is_model {T : Type} [Inhabited T] (g : Slot → T) (M_ID : Nat → T → GoRT.GoM Gen.EventID)
    (hid : GenEquiv.IDAgrees g M_ID) (q : Queue) (id : EventID) (auto : Bool) (fuel : Nat)
    (hf : q.tail + q.buf.length + 1 < fuel) (hcount : q.count < 9223372036854775808) :
    GenEquiv.AgreesV (fun i => (i, GenEquiv.toGenQ g q))
      (Gen.findIDInQueue fuel M_ID (GenEquiv.toGenQ g q) (GenEquiv.genID id) auto) (Model.findIDInQueue q id auto) :=
  GenEquiv.findIDInQueue_eq g M_ID hid q id auto fuel hf hcount

theorem translated_NewFiniteReplayer_is_model (mk : Entry → Gen.Message) (fuel : Nat) (count : Nat) (auto : Bool) :
    Gen.NewFiniteReplayer fuel (count : Int) auto = .ok (match newFinite count auto with
      | none => (none, some "count must be at least 2")
      | some f => (some (GenEquiv.toGenFin mk f), none)) :=
  GenEquiv.newFinite_eq mk fuel count auto

/-- `FiniteReplayer.Put` as translated: from every replayer state, for the caller's message `m` (tag `k`, ID `id`)
— the model's verdict, the model's stored entry (as the message `mk` assigns to it) and the model's next state. -/
theorem translated_FinitePut_is_model (mk : Entry → Gen.Message) (f : Finite) (k : Nat) (id : EventID) (topics : List Bytes)
    (m : Gen.Message) (hm : m.ID = GenEquiv.genID id)
    (hmk : ∀ id', mk { msg := k, id := id', topics := topics, exp := 0 } = { m with ID := GenEquiv.genID id' })
    (hc : ∀ c, f.currentID = some c → c + 1 < 18446744073709551616) (fuel : Nat)
    (hf : ∀ c, f.currentID = some c → (fmtUint c).length < fuel) :
    GenEquiv.PutAgrees mk (GenEquiv.toGenFin mk) (Finite.put f k id topics)
      (Gen.FiniteReplayer_Put fuel (GenEquiv.toGenFin mk f) (some m) topics) :=
  GenEquiv.finitePut_eq mk f k id topics m hm hmk hc fuel hf

/-- `FiniteReplayer.Replay` as translated, with the model's subscriber: it sees the model's calls in the model's
order, `Replay` returns the model's error, the replayer is unchanged. -/
theorem translated_FiniteReplay_is_model (mk : Entry → Gen.Message) (hmk : GenEquiv.CarriesID mk) (f : Finite) (sub : Sub)
    (fuel : Nat) (hf : f.buf.tail + f.buf.buf.length + 1 < fuel) (hcount : f.buf.count < 9223372036854775808)
    (hft : GenEquiv.TopicsFuel fuel f.buf.buf sub) :
    GenEquiv.ReplayAgrees mk sub (GenEquiv.toGenFin mk f) (Finite.replay f sub)
      (Gen.FiniteReplayer_Replay fuel (GenEquiv.toGenFin mk f) (GenEquiv.gSub sub [])) :=
  GenEquiv.finiteReplay_eq mk hmk f sub fuel hf hcount hft

end GoSSE.Props.C08
