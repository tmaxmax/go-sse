import GoSSE.Proofs.JoeMore
import GoSSE.Props.C03
/-!
# C17 — a failing subscriber or replayer affects nobody else
-/
namespace GoSSE.Props.C17
open GoSSE.Model.Joe GoSSE.Proofs.Joe

/-- A subscription's delivery window ends only for its *own* reasons: one of its own live Send/Flush
calls failed, its own context was cancelled, or the provider was shut down. Whatever happens to other
subscribers or to the replayer never ends it. -/
theorem window_ends_only_for_own_reason {c : Cfg} {s : St} (h : Reachable c s) (i : SubId)
    (he : (s.subs i).endAt ≠ none) :
    failedLive (s.subs i) = true ∨ (s.subs i).ctxCancelled = true ∨ s.doneClosed = true :=
  (reachable_all h).2.2.endWhy i he

/-- **Isolation.** A registered subscription none of whose own calls failed, whose context is not
cancelled, with no shutdown requested, has — whenever Joe is idle — been sent *every* matching
publication accepted since it was registered: the message during whose fan-out another subscriber
failed, and all later ones. -/
theorem isolation {c : Cfg} {s : St} (h : Reachable c s) (hj : s.joe = .idle) (i : SubId) (a : Nat)
    (hr : (s.subs i).regAt = some a) (hok : failedLive (s.subs i) = false)
    (hctx : (s.subs i).ctxCancelled = false) (hdone : s.doneClosed = false) :
    livePubs (s.subs i) = (s.log.drop a).filter (matchesP c i) := by
  have he : (s.subs i).endAt = none := by
    cases hne : (s.subs i).endAt with
    | none => rfl
    | some b =>
      exfalso
      rcases window_ends_only_for_own_reason h i (by simp [hne]) with x | x | x
      · rw [hok] at x; simp at x
      · rw [hctx] at x; simp at x
      · rw [hdone] at x; simp at x
  exact C03.registered_gets_everything h hj i a hr he

/-- Only the failing subscriber gets the error: the value placed in a subscription's channel, and hence
what its Subscribe call can return, is its own error — never another subscriber's. -/
theorem own_failure_removes_only_self {c : Cfg} {s s' : St} (h : Reachable c s) (k : SubId) (a b : Bool)
    (hs : step c s (.fanStep k a b) = some s') (i : SubId) (hik : i ≠ k) :
    (s'.subs i).ch = (s.subs i).ch ∧ (s'.subs i).endAt = (s.subs i).endAt ∧
    (i ∈ s'.subscribers ↔ i ∈ s.subscribers) := by
  cases step_trans (reachable_all h).1 hs with
  | fanStepOk | fanStepFail =>
    exact ⟨congrArg SubSt.ch (upd_other _ _ _ _ hik), congrArg SubSt.endAt (upd_other _ _ _ _ hik), Iff.rfl⟩

/-- **Put error**: the Publish call gets the replayer's error, and the message is accepted into the log
and fanned out to exactly the same subscribers as if Put had succeeded (then `C03.delivery_exact`
applies to it like to any other logged publication). -/
theorem put_error_still_delivered {c : Cfg} {s s' s'' : St} (p : PubId)
    (herr : step c s (.pubAccept p .err) = some s') (hok : step c s (.pubAccept p (.ok 0)) = some s'') :
    (s'.pubs p).pc = .handed (some (.put p)) ∧ s'.log = s.log ++ [p] ∧ s'.joe = s''.joe ∧
    s'.subscribers = s''.subscribers ∧ s'.replayer = s''.replayer := by
  obtain ⟨_, herr⟩ := ite_eq_some herr
  obtain ⟨_, herr⟩ := ite_none_eq_some herr
  obtain ⟨_, hok⟩ := ite_eq_some hok
  obtain ⟨_, hok⟩ := ite_none_eq_some hok
  cases herr; cases hok
  exact ⟨congrArg PubSt.pc (upd_same _ _ _), rfl, rfl, rfl, rfl⟩

/-- **Replayer panic**: the call proceeds as if no replayer were configured (the subscription is
registered / the message is fanned out) and the replayer is disabled. -/
theorem panic_proceeds_and_disables {c : Cfg} {s s' : St} (i : SubId) (rc : List Call)
    (hs : step c s (.subAccept i rc .panic) = some s') :
    s'.replayer = false ∧ i ∈ s'.subscribers ∧ (s'.subs i).pc = .waiting := by
  obtain ⟨_, hs⟩ := ite_eq_some hs
  by_cases hr : s.replayer = true
  · rw [if_pos hr] at hs
    cases hs
    exact ⟨rfl, List.mem_cons_self, congrArg SubSt.pc (upd_same _ _ _)⟩
  · rw [if_neg hr] at hs
    cases (ite_eq_some hs).1.1

theorem put_panic_proceeds_and_disables {c : Cfg} {s s' : St} (p : PubId)
    (hs : step c s (.pubAccept p .panic) = some s') :
    s'.replayer = false ∧ s'.log = s.log ++ [p] ∧ (s'.pubs p).pc = .handed none := by
  obtain ⟨_, hs⟩ := ite_eq_some hs
  obtain ⟨_, hs⟩ := ite_none_eq_some hs
  cases hs
  exact ⟨Bool.and_false _, rfl, congrArg PubSt.pc (upd_same _ _ _)⟩

/-- Once disabled, the replayer stays disabled, and no later transition involves a `Put` or `Replay`
outcome: with `replayer = false` the only accepted subscription label is "no replay calls, ok" and the
only accepted publication label is "ok, nothing stored". -/
theorem disabled_replayer_is_never_used {c : Cfg} {s s' : St} (hd : s.replayer = false) (l : Label)
    (hs : step c s l = some s') :
    s'.replayer = false ∧
    (∀ i rc o, l = .subAccept i rc o → rc = [] ∧ o = .ok) ∧
    (∀ p o, l = .pubAccept p o → o = .ok 0) := by
  refine ⟨?_, ?_, ?_⟩
  · exact step_replayer l hs hd
  · intro i rc o hl; subst hl
    obtain ⟨_, hs⟩ := ite_eq_some hs
    rw [hd] at hs
    exact (ite_eq_some hs).1.symm
  · intro p o hl; subst hl
    obtain ⟨_, hs⟩ := ite_eq_some hs
    exact Decidable.byContradiction fun ho => (ite_none_eq_some hs).1 ⟨by rw [hd]; nofun, ho⟩

/-- **Only the failing subscriber is removed, and it is handed its own error.** What the translated fan-out appends to the
log of Joe's channel operations is exactly, for every subscriber whose `Send` or `Flush` failed, in the order visited:
that error sent on *its own* `done` channel, then that channel's close — and nothing for anybody else. So a failed
subscriber gets its own first error (a failed `Send` is not followed by a `Flush`), exactly once, on a channel that is
closed right after and never touched again; the subscribers that did not fail stay in the map (`C03.fanout_exactly_once`:
their entries are `delivered` or `skipped`), whatever happened to the others before or after them in the same fan-out. -/
theorem fanout_hands_over_own_error {σ : Type} (fuel : Nat) (j : Gen.Joe σ) (msg : Gen.publishedMessage) (order : List Nat)
    (hf : order.length < fuel) (hfit : GenEquiv.TopicsFit fuel msg j) (hnd : order.Nodup) :
    ∃ j', Gen.Joe_fanout fuel j msg order = .ok j' ∧
      j'.chlog = j.chlog ++ order.flatMap fun k => GenEquiv.stepLog msg k (GoRT.mapGet j.subscribers k) :=
  ⟨_, GenEquiv.fanout_eq fuel j msg order hf hfit, GenEquiv.fold_log msg order j hnd⟩

/-- non-vacuity: three subscribers on topic "t"; the second one's Send fails: it gets "boom" and is closed, the others
are delivered to and stay -/
example :
    let w (fail : Bool) : GoRT.MsgWriter Gen.Message Nat :=
      ⟨0, fun st _ => (if fail then some "boom" else none, st + 1), fun st => (none, st + 10)⟩
    let sub (fail : Bool) : Gen.Subscription Nat := ⟨w fail, default, [[116]]⟩
    let j : Gen.Joe Nat := ⟨0, 0, 0, 0, 0, [(1, sub false), (2, sub true), (3, sub false)], (), (), []⟩
    let msg : Gen.publishedMessage := ⟨9, ⟨none, [[116]]⟩⟩
    (Gen.Joe_fanout 10 j msg [3, 2, 1]).map (fun j' => (j'.subscribers.map fun e => (e.1, e.2.Client.st), j'.chlog)) =
      .ok ([(1, 11), (3, 11)], [GoRT.ChanOp.send 2 (some "boom"), GoRT.ChanOp.close 2]) := by
  intro w sub j msg
  -- one evaluation per subscriber visited, from the state the previous one left (a single `rfl` over the whole fan-out
  -- is far slower to elaborate)
  let served : Gen.Subscription Nat := ⟨{ w false with st := 11 }, default, [[116]]⟩
  let st (subs : List (Nat × Gen.Subscription Nat)) (log : List (GoRT.ChanOp (Option String))) : Gen.Joe Nat :=
    ⟨0, 0, 0, 0, 0, subs, (), (), log⟩
  let log := [GoRT.ChanOp.send 2 (some "boom"), GoRT.ChanOp.close 2]
  have h1 : Gen.Joe_fanout_loop1 10 [3, 2, 1] (0, j, msg) =
      .ok (.next (1, st [(1, sub false), (2, sub true), (3, served)] [], msg)) := rfl
  have h2 : Gen.Joe_fanout_loop1 10 [3, 2, 1] (1, st [(1, sub false), (2, sub true), (3, served)] [], msg) =
      .ok (.next (2, st [(1, sub false), (3, served)] log, msg)) := rfl
  have h3 : Gen.Joe_fanout_loop1 10 [3, 2, 1] (2, st [(1, sub false), (3, served)] log, msg) =
      .ok (.next (3, st [(1, served), (3, served)] log, msg)) := rfl
  have h4 : Gen.Joe_fanout_loop1 10 [3, 2, 1] (3, st [(1, served), (3, served)] log, msg) =
      .ok (.brk (3, st [(1, served), (3, served)] log, msg)) := rfl
  have hl : GoRT.loopM (Gen.Joe_fanout_loop1 10 [3, 2, 1]) 10 (0, j, msg) =
      .ok (.inl (3, st [(1, served), (3, served)] log, msg)) := by
    rw [GenEquiv.loopM_next h1, GenEquiv.loopM_next h2, GenEquiv.loopM_next h3, GenEquiv.loopM_brk h4]
  show Except.map _ (GoRT.loopM (Gen.Joe_fanout_loop1 10 [3, 2, 1]) 10 (0, j, msg) >>= _) = _
  rw [hl]
  rfl

end GoSSE.Props.C17
