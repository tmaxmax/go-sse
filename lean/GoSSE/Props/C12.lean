import GoSSE.Proofs.ClientConnect
import GoSSE.Proofs.GenEquivBackoff
/-!
# C12 — the retry schedule follows the Backoff configuration

Model: `Model/Backoff.lean` (`mergeDefaults`, `Ctl.new/reset/next`, `nextInterval`, `growInterval`) and
the `Connect` loop of `Model/Connection.lean`. Durations are `Int` ns. The float computations are the
abstract functions `fl.grow`, `fl.capped`, `fl.jitter` (see `Model/Backoff.lean`); hypotheses on them are
explicit. All theorems hold for every configuration, every history of attempt outcomes, every clock and
every sequence of random draws.

Excluded by hypothesis (DESIGN.md §3): `int64` overflow of an interval (durations are unbounded `Int`
here) and float rounding (validated by testing against exact rationals, tolerance 1 ns).
-/
namespace GoSSE.Props.C12
open GoSSE GoSSE.Spec GoSSE.Spec.Client GoSSE.Model GoSSE.Model.Client GoSSE.Proofs.ClientBackoff GoSSE.Proofs.ClientConnect

/-- At most `MaxRetries` retries without an intervening successful connection: in the trace of any
`Connect` run there are never more than `MaxRetries` consecutive `retry` items not separated by a
`connected` item (`MaxRetries > 0`). -/
theorem retries_bounded (cfg : Cfg) (fl : Floats) (h : List Attempt) (c : Conn) (t0 : Int) (done0 : Bool)
    (hm : cfg.maxRetries > 0) :
    boundedRuns cfg.maxRetries 0 (connect cfg fl c t0 done0 h).trace :=
  boundedRuns_run hm (connectLoop_run cfg fl h c (Ctl.new cfg t0) done0) (Int.le_refl 0) (Int.le_of_lt hm)

/-- `MaxRetries < 0`: no retry at all. -/
theorem no_retries_when_negative (cfg : Cfg) (fl : Floats) (h : List Attempt) (c : Conn) (t0 : Int) (done0 : Bool)
    (hm : cfg.maxRetries < 0) : noRetry (connect cfg fl c t0 done0 h).trace :=
  noRetry_run hm (connectLoop_run cfg fl h c (Ctl.new cfg t0) done0)

/-- `MaxRetries = 0` (and no `MaxElapsedTime`): unbounded — `next` never refuses, for any state. -/
theorem retries_unbounded_when_zero (cfg : Cfg) (fl : Floats) (ctl : Ctl) (now draw : Int)
    (hm : cfg.maxRetries = 0) (he : cfg.maxElapsedTime ≤ 0) :
    (ctl.next cfg fl now draw).2 = some (nextInterval cfg fl ctl.interval draw) := by
  have hl : limitHit cfg ctl = false := by simp [limitHit, hm]
  rw [(next_step cfg fl ctl now draw hl).2]
  have : ¬ cfg.maxElapsedTime > 0 := by omega
  simp [this]

/-- `OnRetry` is called exactly once before each further attempt, with the wait actually used: the
trace of any run has the shape `attempt connected? (retry attempt connected?)* retry?` — two attempts
are always separated by exactly one `retry` item, and that item's wait is the very value the timer is
reset to (one variable in `Connect`, one field of the item). -/
theorem on_retry_once_with_wait (cfg : Cfg) (fl : Floats) (h : List Attempt) (c : Conn) (t0 : Int) (done0 : Bool) :
    shape 0 (connect cfg fl c t0 done0 h).trace :=
  shape_run (connectLoop_run cfg fl h c (Ctl.new cfg t0) done0)

/-- The schedule, for any relation `P` between a base and a wait that `nextInterval` guarantees:
in the trace of any run, every wait is `P`-related to its base, where the base is `InitialInterval`
at first, the server's retry value (`retryInterval`: the last `retry` field if positive, else
`InitialInterval`) after each successful connection, and `growInterval` of the previous base after
each retry. -/
theorem schedule (P : Int → Int → Prop) (cfg : Cfg) (fl : Floats) (hP : ∀ b u, P b (nextInterval cfg fl b u))
    (h : List Attempt) (c : Conn) (t0 : Int) (done0 : Bool) :
    sched P cfg fl cfg.initialInterval (connect cfg fl c t0 done0 h).trace :=
  schedule_inv P (fun _ => True) (fun _ => True) cfg fl (fun _ _ => trivial) (fun _ => trivial)
    (fun b u _ _ => hP b u) (connectLoop_run cfg fl h c (Ctl.new cfg t0) done0) (fun _ _ => trivial) trivial

/-- The base sequence at the controller: if `k+1` consecutive `next` calls all grant a retry, the
wait of the last one is `nextInterval` of `iter (growI cfg fl) k b₁` (`growInterval` applied `k` times), where `b₁`
is the interval the series started with. -/
theorem base_sequence (cfg : Cfg) (fl : Floats) (c : Ctl) (steps : List (Int × Int))
    (hall : ∀ r ∈ nexts cfg fl c steps, r.isSome = true) (k : Nat) (hk : k < steps.length) :
    (nexts cfg fl c steps)[k]? = some (some (nextInterval cfg fl (iter (growI cfg fl) k c.interval) (steps[k]).2)) := by
  induction steps generalizing c k with
  | nil => simp at hk
  | cons s rest ih =>
    have h0 : ((c.next cfg fl s.1 s.2).2).isSome = true := hall _ (by simp [nexts])
    obtain ⟨w, hw⟩ := Option.isSome_iff_exists.mp h0
    obtain ⟨_, hwv, hst, _⟩ := next_some cfg fl c s.1 s.2 w hw
    cases k with
    | zero => simp [nexts, hw, hwv, iter]
    | succ k =>
      have := ih (c.next cfg fl s.1 s.2).1 (fun r hr => hall r (by simp [nexts, hr])) k (by simpa using hk)
      simp only [nexts, List.getElem?_cons_succ, List.getElem_cons_succ]
      rw [this, hst]
      simp [iter]

/-- `b_(k+1) = min(b_k · Multiplier, MaxInterval)` when `MaxInterval` is set, else `b_k · Multiplier`:
provided the float comparison in `growInterval` agrees with the product it guards (`CapOK`, validated
by testing; satisfied by the exact-arithmetic instance, `exactFloats_capOK`), the model's base
sequence is the specification's closed form `baseAt`. -/
theorem base_is_spec (cfg : Cfg) (fl : Floats) (hc : CapOK fl) (b1 : Int) (k : Nat) :
    iter (growI cfg fl) k b1 = baseAt (scfg cfg fl) b1 k ∧
    growI cfg fl b1 = (if cfg.maxInterval > 0 then min (fl.grow b1) cfg.maxInterval else fl.grow b1) :=
  ⟨iter_eq_baseAt cfg fl hc b1 k, by rw [growI_eq_nextBase cfg fl hc]; rfl⟩

/-- non-vacuity of `CapOK`-style hypotheses: the driver's exact instance, Multiplier 3/2 -/
example : ∀ c m : Int, 0 ≤ c → m > 0 →
    ((exactFloats 3 2 1 2).capped c m = true ↔ m ≤ (exactFloats 3 2 1 2).grow c) :=
  exactFloats_capOK 3 2 1 2 (by decide) (by decide)

/-- A successful connection resets count and interval, and a server retry field overrides the base:
after a stream attempt the controller has made 0 retries, its series starts now, and its base is the
last positive `retry` value of that connection, `InitialInterval` if there is none or the last one is
`retry: 0` (the recorded reading of `reset`'s contract) — which is the specification's `retryBase`. -/
theorem reset_on_success (cfg : Cfg) (c : Conn) (ctl : Ctl) (a : Attempt) (done : Bool) (src : Source) (ic : Bool)
    (hr : (resetRequest c).2 = none) (ho : a.out = .stream src ic) :
    (doConnect cfg c ctl a done).ctl.numRetries = 0 ∧
    (doConnect cfg c ctl a done).ctl.start = a.tReset ∧
    (doConnect cfg c ctl a done).ctl.interval = retryBase cfg.initialInterval (outsOf (resetRequest c).1 src) := by
  have h3 : ∀ outs, (applyRetries cfg ctl outs a.tReset).numRetries = 0 ∧ (applyRetries cfg ctl outs a.tReset).start = a.tReset ∧
      (applyRetries cfg ctl outs a.tReset).interval = retryBase cfg.initialInterval outs := fun outs => by
    rw [applyRetries_eq, retryInterval_eq_retryBase]; exact ⟨rfl, rfl, rfl⟩
  rw [doConnect_stream cfg c ctl a done _ src ic (Prod.ext rfl hr) ho]
  split <;> exact h3 _

/-- `retry: 0` restores `InitialInterval`; a positive value `n` ms (below the `int64` range) is taken. -/
theorem server_retry_reading (initial : Int) (pre : List Out) (n : Nat) :
    retryBase initial (pre ++ [.retry 0]) = initial ∧
    (0 < n → n * 1000000 ≤ 9223372036854775807 → retryBase initial (pre ++ [.retry n]) = n * 1000000) := by
  refine ⟨by rw [retryBase_concat_retry]; rfl, fun hp hle => ?_⟩
  rw [retryBase_concat_retry, wrap64_of_small _ (by omega) (by omega), if_pos (by omega)]

/-- No retry starts once `MaxElapsedTime` would be exceeded: whenever `next` grants a wait `w` at
clock reading `now`, the time since the series began plus `w` is within `MaxElapsedTime` (if set). -/
theorem max_elapsed_respected (cfg : Cfg) (fl : Floats) (c : Ctl) (now draw w : Int)
    (h : (c.next cfg fl now draw).2 = some w) (hm : cfg.maxElapsedTime > 0) :
    (now - c.start) + w ≤ cfg.maxElapsedTime :=
  (next_some cfg fl c now draw w h).2.2.2 hm

/-- `Jitter = -1`: every wait of every run equals its base exactly. -/
theorem jitter_minus_one_exact (cfg : Cfg) (fl : Floats) (hj : cfg.jitterOff = true)
    (h : List Attempt) (c : Conn) (t0 : Int) (done0 : Bool) :
    sched (fun b w => w = b) cfg fl cfg.initialInterval (connect cfg fl c t0 done0 h).trace :=
  schedule _ cfg fl (by intro b u; simp [nextInterval, hj]) h c t0 done0

/-- With jitter, every wait of every run is within the bound of its base, under the stated hypothesis
on the abstract `jitter` function: `b - B b ≤ jitter b u ≤ b + B b + 1` (for `B b = Jitter · b` this is
what `nextInterval` computes in exact arithmetic; for the float code it is validated by testing). -/
theorem wait_within_jitter (cfg : Cfg) (fl : Floats) (B : Int → Int) (hB : ∀ b, 0 ≤ B b)
    (hj : ∀ b u, b - B b ≤ fl.jitter b u ∧ fl.jitter b u ≤ b + B b + 1)
    (h : List Attempt) (c : Conn) (t0 : Int) (done0 : Bool) :
    sched (fun b w => b - B b ≤ w ∧ w ≤ b + B b + 1) cfg fl cfg.initialInterval (connect cfg fl c t0 done0 h).trace := by
  apply schedule
  intro b u
  unfold nextInterval
  split
  · have := hB b; constructor <;> omega
  · exact hj b u

/-- The same for the driver's exact-arithmetic instance, with no hypothesis on `jitter` left: for
`Jitter = jn/jd ∈ [0,1)`, `Multiplier = mn/md ≥ 0`, a non-negative `InitialInterval` and random draws
`u/2^53 ∈ [0,1)`, every wait of every run lies within `⌊Jitter·b⌋ + 1` below and `⌊Jitter·b⌋ + 2` above
its base `b`. (This also shows the hypotheses of `wait_within_jitter` are satisfiable.) -/
theorem wait_within_jitter_exact (cfg : Cfg) (mn : Int) (md : Nat) (jn : Int) (jd : Nat)
    (hmn : 0 ≤ mn) (hjd : 0 < jd) (hjn : 0 ≤ jn) (hlt : jn < jd) (hi : 0 ≤ cfg.initialInterval)
    (h : List Attempt) (hU : ∀ a ∈ h, 0 ≤ a.draw ∧ a.draw < 9007199254740992) (c : Conn) (t0 : Int) (done0 : Bool) :
    sched (fun b w => b - (jn * b / jd + 1) ≤ w ∧ w ≤ b + (jn * b / jd + 1) + 1) cfg (exactFloats mn md jn jd)
      cfg.initialInterval (connect cfg (exactFloats mn md jn jd) c t0 done0 h).trace := by
  refine schedule_inv _ (fun b => 0 ≤ b) (fun u => 0 ≤ u ∧ u < 9007199254740992) cfg _
    (fun b hb => growI_nonneg_exact cfg mn md jn jd hmn b hb)
    (fun outs => retryInterval_nonneg _ hi outs) ?_ (connectLoop_run cfg _ h c (Ctl.new cfg t0) done0) hU hi
  intro b u hb hu
  unfold nextInterval
  split
  · have : 0 ≤ jn * b / (jd : Int) := Int.ediv_nonneg (Int.mul_nonneg hjn hb) (Int.natCast_nonneg jd)
    constructor <;> omega
  · exact exactFloats_jitter_bounds mn md jn jd hjd hjn hlt b u hb hu.1 hu.2

/-- non-vacuity of the jitter hypothesis: a jitter function that adds `u mod (b/2 + 1)` -/
example : ∀ b u : Int, 0 ≤ b → b - b / 2 ≤ (b + u % (b / 2 + 1)) ∧ (b + u % (b / 2 + 1)) ≤ b + b / 2 + 1 := by
  intro b u hb
  have h1 : 0 ≤ u % (b / 2 + 1) := Int.emod_nonneg _ (by omega)
  have h2 : u % (b / 2 + 1) < b / 2 + 1 := Int.emod_lt_of_pos _ (by omega)
  constructor <;> omega

/-- `mergeDefaults` as a decision table, for any float carrier: each of the three defaulted fields is
replaced independently, exactly under the condition the code tests; the other fields are untouched. -/
theorem mergeDefaults_table {F : Type} (o : FloatOps F) (d b : Backoff F) :
    (mergeDefaults o d b).initialInterval = (if b.initialInterval ≤ 0 then d.initialInterval else b.initialInterval) ∧
    (mergeDefaults o d b).multiplier = (if o.ltOne b.multiplier then d.multiplier else b.multiplier) ∧
    (mergeDefaults o d b).jitter =
      (if !o.isMinusOne b.jitter && (o.leZero b.jitter || o.geOne b.jitter) then d.jitter else b.jitter) ∧
    (mergeDefaults o d b).maxInterval = b.maxInterval ∧
    (mergeDefaults o d b).maxElapsedTime = b.maxElapsedTime ∧
    (mergeDefaults o d b).maxRetries = b.maxRetries := by
  -- each of the three updates touches one field: a projection goes through the conditional, the other fields see `b`'s
  simp only [mergeDefaults, apply_ite Backoff.initialInterval, apply_ite Backoff.multiplier, apply_ite Backoff.jitter,
    apply_ite Backoff.maxInterval, apply_ite Backoff.maxElapsedTime, apply_ite Backoff.maxRetries, ite_self, and_self]

/-- The table on actual values (exact rationals and NaN), in the specification's vocabulary: `Jitter`
is kept iff it is -1, inside (0,1) or NaN — in particular -1 ("no randomization") survives;
`Multiplier` is kept iff it is ≥ 1 or NaN; `InitialInterval` iff it is positive. -/
theorem mergeDefaults_table_values (d b : Backoff FV)
    (hm : ∀ n dd, b.multiplier = .rat n dd → 0 < dd) (hj : ∀ n dd, b.jitter = .rat n dd → 0 < dd) :
    (mergeDefaults FV.ops d b).initialInterval = (if keepInitial b.initialInterval then b.initialInterval else d.initialInterval) ∧
    (mergeDefaults FV.ops d b).multiplier = (if keepMultiplier b.multiplier.cls then b.multiplier else d.multiplier) ∧
    (mergeDefaults FV.ops d b).jitter = (if keepJitter b.jitter.cls then b.jitter else d.jitter) := by
  obtain ⟨h1, h2, h3, _⟩ := mergeDefaults_table FV.ops d b
  refine ⟨?_, ?_, ?_⟩
  · rw [h1]; unfold keepInitial
    by_cases hi : b.initialInterval ≤ 0
    · rw [if_pos hi, if_neg (by rw [decide_eq_true_eq]; omega)]
    · rw [if_neg hi, if_pos (by rw [decide_eq_true_eq]; omega)]
  · rw [h2, (FV.tests_eq _ hm).1]; cases keepMultiplier b.multiplier.cls <;> rfl
  · rw [h3, (FV.tests_eq _ hj).2]; cases keepJitter b.jitter.cls <;> rfl

/-- non-vacuity / the fixed defect: `Jitter: -1` is kept, `0`, `1`, `1.5` are replaced by the default -/
example :
    ((mergeDefaults FV.ops ⟨500, .rat 3 2, .rat 1 2, 0, 0, 0⟩ ⟨0, .rat 1 2, .rat (-1) 1, 0, 0, 0⟩).jitter,
     (mergeDefaults FV.ops ⟨500, .rat 3 2, .rat 1 2, 0, 0, 0⟩ ⟨7, .rat 1 1, .rat 3 2, 0, 0, 0⟩).jitter,
     (mergeDefaults FV.ops ⟨500, .rat 3 2, .rat 1 2, 0, 0, 0⟩ ⟨0, .rat 1 2, .rat 0 1, 0, 0, 0⟩).initialInterval)
    = (.rat (-1) 1, .rat 1 2, 500) := by decide

/-- **`backoffController.next` as translated from client.go** (with `nextInterval` and `growInterval`) is one step of the
model's controller. In the translated text `float64` is an abstract carrier with the operations the Go code performs
(`fo`; nothing is assumed of them, so this holds for IEEE arithmetic as for exact arithmetic), the generator is the
list of its coming draws and the clock reading of the call is a parameter; `GenEquiv.floatsOf` spells the model's three
float computations out of `fo`, the configuration's `Multiplier` / `Jitter` and the draw at hand. For **every**
configuration, controller state, draw and clock reading, `next` returns `(wait, true)` / `(0, false)` exactly as
`Ctl.next` answers `some wait` / `none`, leaves the model's `start`, `interval`, `numRetries`, consumes the draw exactly
when the retry limit does not refuse and jitter is on, and does not panic. The schedule theorems above (`schedule`,
`base_sequence`, `retries_bounded`, `max_elapsed_respected`, …) are therefore statements about the text of client.go's
controller (the `Connect` loop around it stays with the hand model and the CONN correspondence). -/
theorem translated_next_is_model {φ : Type} (fo : GoRT.FloatI φ) (fuel : Nat) (c : Gen.backoffController φ) (b : Gen.Backoff φ)
    (hb : c.b = some b) (d : φ) (rest : List φ) (hr : c.rng = d :: rest) (now : Int) :
    Gen.backoffController_next fo fuel c now =
      .ok (GenEquiv.nextRes c (Ctl.next (GenEquiv.cfgOf fo b) (GenEquiv.floatsOf fo b d) (GenEquiv.ctlOf c) now 0)
        (if GenEquiv.refused (GenEquiv.cfgOf fo b) (GenEquiv.ctlOf c) || (GenEquiv.cfgOf fo b).jitterOff then c.rng else rest)) :=
  GenEquiv.next_eq fo fuel c b hb d rest hr now

/-- … and with `Jitter == -1` no draw is needed, whatever the generator holds -/
theorem translated_next_is_model_jitter_off {φ : Type} (fo : GoRT.FloatI φ) (fuel : Nat) (c : Gen.backoffController φ)
    (b : Gen.Backoff φ) (hb : c.b = some b) (d : φ) (hoff : (GenEquiv.cfgOf fo b).jitterOff = true) (now : Int) :
    Gen.backoffController_next fo fuel c now =
      .ok (GenEquiv.nextRes c (Ctl.next (GenEquiv.cfgOf fo b) (GenEquiv.floatsOf fo b d) (GenEquiv.ctlOf c) now 0) c.rng) :=
  GenEquiv.next_eq_off fo fuel c b hb d hoff now

/-- **`backoffController.reset` as translated** is `Ctl.reset` at the clock reading of the call (a positive server
`retry` value becomes the interval, anything else restores `InitialInterval`; the retry count starts again) -/
theorem translated_reset_is_model {φ : Type} (fo : GoRT.FloatI φ) (fuel : Nat) (c : Gen.backoffController φ) (b : Gen.Backoff φ)
    (hb : c.b = some b) (newInterval now : Int) :
    Gen.backoffController_reset fo fuel c newInterval now =
      .ok (GenEquiv.withCtl c (Ctl.reset (GenEquiv.cfgOf fo b) (GenEquiv.ctlOf c) newInterval now) c.rng) :=
  GenEquiv.reset_eq fo fuel c b hb newInterval now

/-- non-vacuity: integers as the float carrier, `Multiplier` 2, `Jitter` −1, `MaxInterval` 15, at most 3 retries: a step
from interval 5 waits 5 and doubles the interval; from 10 the interval is capped; the fourth `next` refuses -/
example :
    let fo : GoRT.FloatI Int := ⟨fun n _ => n, id, id, (· + ·), (· - ·), (· * ·), (· / ·), fun a b => decide (a < b), fun a b => decide (a ≤ b), fun a b => a == b⟩
    let b : Gen.Backoff Int := ⟨5, 2, -1, 15, 0, 3⟩
    (Gen.backoffController_next fo 1 ⟨0, [], some b, 5, 0⟩ 7).map (fun r => (r.1, r.2.1, r.2.2.interval, r.2.2.numRetries)) = .ok (5, true, 10, 1) ∧
    (Gen.backoffController_next fo 1 ⟨0, [], some b, 10, 1⟩ 7).map (fun r => (r.1, r.2.1, r.2.2.interval, r.2.2.numRetries)) = .ok (10, true, 15, 2) ∧
    (Gen.backoffController_next fo 1 ⟨0, [], some b, 15, 3⟩ 7).map (fun r => (r.1, r.2.1, r.2.2.interval, r.2.2.numRetries)) = .ok (0, false, 15, 3) := by
  intro fo b
  exact ⟨rfl, rfl, rfl⟩

end GoSSE.Props.C12
