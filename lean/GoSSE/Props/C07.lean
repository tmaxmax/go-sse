import GoSSE.Proofs.JoeMeasure
import GoSSE.Proofs.GenEquivJoeFanout
/-!
# C07 — Shutdown terminates everything; no provider call blocks forever

`Pending s`: some call is at a point from which the property says it must be able to go on — a
Subscribe not yet accepted, a Subscribe whose context is cancelled or whose provider is shutting
down, any Publish that has not returned, any Shutdown that has not returned. Labels of the
environment (a new call is made, a context is cancelled) are not progress.
-/
namespace GoSSE.Props.C07
open GoSSE.Model.Joe GoSSE.Proofs.Joe

def isEnv : Label → Bool
  | .subCall _ | .pubCall _ | .shutCall _ | .cancel _ | .shutCancel _ => true
  | _ => false

def SubPending (s : St) (i : SubId) : Prop :=
  (s.subs i).pc = .start ∨ (s.subs i).pc = .cancelled ∨
  ((s.subs i).pc = .waiting ∧ ((s.subs i).ctxCancelled = true ∨ s.doneClosed = true))

def PubPending (s : St) (p : PubId) : Prop := (s.pubs p).pc = .start ∨ ∃ e, (s.pubs p).pc = .handed e

def ShutPending (s : St) (k : ShutId) : Prop := (s.shuts k).pc = .start ∨ (s.shuts k).pc = .waiting

def Pending (s : St) : Prop := (∃ i, SubPending s i) ∨ (∃ p, PubPending s p) ∨ (∃ k, ShutPending s k)

/-- while the loop is in the middle of a fan-out it can always take its next step (given that Send and
Flush return — they are labels) -/
theorem loop_busy_can_step {c : Cfg} {s : St} (hb : (∃ p rest, s.joe = .fanout p rest) ∨ (∃ p i rest, s.joe = .failed p i rest)) :
    ∃ l, isEnv l = false ∧ (step c s l).isSome = true := by
  rcases hb with ⟨p, rest, hj⟩ | ⟨p, i, rest, hj⟩
  · cases rest with
    | nil => exact ⟨.fanDone, rfl, by rw [step_fanDone, hj]; rfl⟩
    | cons i is => exact ⟨.fanStep i true true, rfl, by
      rw [step_fanStep, hj]; exact ite_isSome (List.contains_iff_mem.mpr List.mem_cons_self) rfl⟩
  · exact ⟨.fanRemove, rfl, by rw [step_fanRemove, hj]; rfl⟩

/-- **No deadlock.** In every reachable state in which some call is pending, some transition other
than an environment action is enabled. -/
theorem no_deadlock {c : Cfg} {s : St} (h : Reachable c s) (hp : Pending s) :
    ∃ l, isEnv l = false ∧ (step c s l).isSome = true := by
  have hinv := (reachable_all h).1
  have hpinv := reachable_pinv h
  cases hj : s.joe with
  | fanout p rest => exact loop_busy_can_step (Or.inl ⟨p, rest, hj⟩)
  | failed p i rest => exact loop_busy_can_step (Or.inr ⟨p, i, rest, hj⟩)
  | panicked => exact absurd hj hinv.ok.1
  | blocked => exact absurd hj hinv.ok.2
  | idle =>
    rcases hp with ⟨i, hs | hc | ⟨hw, hx | hd⟩⟩ | ⟨p, hs | ⟨e, he⟩⟩ | ⟨k, hs | hw⟩
    · exact ⟨.subAccept i [] .ok, rfl, ite_isSome ⟨hs, hj⟩ (by cases s.replayer <;> rfl)⟩
    · exact ⟨.unsubAccept i, rfl, ite_isSome ⟨hc, hj⟩ rfl⟩
    · exact ⟨.subSeeCancel i, rfl, ite_isSome ⟨hw, hx⟩ rfl⟩
    · exact ⟨.loopExit, rfl, ite_isSome ⟨hj, hd⟩ rfl⟩
    · by_cases ht : c.pubTopics p = []
      · exact ⟨.pubNoTopic p, rfl, ite_isSome ⟨hs, ht⟩ rfl⟩
      · exact ⟨.pubAccept p (.ok 0), rfl, ite_isSome ⟨hs, hj, ht⟩ (by rw [if_neg fun h => h.2 rfl]; rfl)⟩
    · exact ⟨.pubRecv p, rfl, by rw [step_pubRecv, he]; rfl⟩
    · by_cases hd : s.doneClosed = true
      · exact ⟨.shutRecovered k, rfl, ite_isSome ⟨hs, hd⟩ rfl⟩
      · exact ⟨.shutClose k, rfl, ite_isSome ⟨hs, hd⟩ rfl⟩
    · exact ⟨.loopExit, rfl, ite_isSome ⟨hj, hpinv.shutWaiting k hw⟩ rfl⟩
  | exited =>
    obtain ⟨hd, hcc, hsubs⟩ := hpinv.exited hj
    -- a subscription at its second or third select: its channel holds an error or is closed
    have recv : ∀ i, ((s.subs i).pc = .waiting ∨ (s.subs i).pc = .cancelled) → (step c s (.subRecv i)).isSome = true := by
      intro i hw
      cases hbuf : (s.subs i).ch.buf with
      | some e => exact ite_isSome hw (by rw [hbuf]; rfl)
      | none =>
        have hcl : (s.subs i).ch.closed = true :=
          (hpinv.waitingOK i hw).elim (fun hm => by rw [hsubs] at hm; cases hm) (·.resolve_left (absurd hbuf))
        exact ite_isSome hw (by rw [hbuf, hcl]; rfl)
    rcases hp with ⟨i, hs | hc | ⟨hw, _⟩⟩ | ⟨p, hs | ⟨e, he⟩⟩ | ⟨k, hs | hw⟩
    · exact ⟨.subClosedEarly i, rfl, ite_isSome ⟨hs, hd⟩ rfl⟩
    · exact ⟨.subRecv i, rfl, recv i (Or.inr hc)⟩
    · exact ⟨.subRecv i, rfl, recv i (Or.inl hw)⟩
    · by_cases ht : c.pubTopics p = []
      · exact ⟨.pubNoTopic p, rfl, ite_isSome ⟨hs, ht⟩ rfl⟩
      · exact ⟨.pubClosedEarly p, rfl, ite_isSome ⟨hs, ht, hd⟩ rfl⟩
    · exact ⟨.pubRecv p, rfl, by rw [step_pubRecv, he]; rfl⟩
    · exact ⟨.shutRecovered k, rfl, ite_isSome ⟨hs, hd⟩ rfl⟩
    · exact ⟨.shutSeeClosed k, rfl, ite_isSome ⟨hw, hcc⟩ rfl⟩

/-- **Termination without fairness assumptions.** Fix any bounds `nS`, `nP`, `nK` on the identifiers of
the calls made so far. Every run that starts in a reachable state and contains no *new* call (cancellations,
`select` choices, Send/Flush/Put/Replay outcomes and every interleaving are allowed) has at most
`mu nS nP nK s` steps. Together with `no_deadlock`: from any reachable state — in particular after
`Shutdown` has closed `done` — every maximal run without new calls is finite and ends in a state where
nothing is pending: every Subscribe that is started, cancelled or caught by the shutdown has returned,
every Publish and every Shutdown has returned. -/
theorem runs_terminate {c : Cfg} {s s' : St} {ls : List Label} (nS nP nK : Nat) (h : Reachable c s)
    (hb : SubsBelow nS s) (r : Run c s ls s') (hls : ∀ l ∈ ls, isCall l = false ∧ labelIn nS nP nK l) :
    ls.length ≤ mu nS nP nK s := by
  have := run_bounded nS nP nK h hb r hls
  omega

/-- a state in which no transition other than an environment action is enabled has nothing pending -/
theorem quiescent_means_all_returned {c : Cfg} {s : St} (h : Reachable c s)
    (hq : ∀ l, isEnv l = false → (step c s l).isSome = false) : ¬ Pending s := by
  intro hp
  obtain ⟨l, hl, hs⟩ := no_deadlock h hp
  rw [hq l hl] at hs; simp at hs

/-- After the loop has exited it has released every subscriber and closed `closed`; `closed` is closed
only by the exiting loop. -/
theorem exit_releases_everything {c : Cfg} {s : St} (h : Reachable c s) :
    (s.joe = .exited → s.doneClosed = true ∧ s.closedClosed = true ∧ s.subscribers = []) ∧
    (s.closedClosed = true → s.joe = .exited) :=
  ⟨(reachable_pinv h).exited, (reachable_pinv h).closedExited⟩

/-- **Return values of Shutdown.** A Shutdown call that finds `done` already closed (a repeated or
concurrent call: closing a closed channel panics and is recovered) returns ErrProviderClosed; the call
that closes it returns nil once the loop has exited, or its context's error if that ends first. -/
theorem shutdown_results {c : Cfg} {s s' : St} (h : Reachable c s) (k : ShutId) (l : Label) (hs : step c s l = some s')
    (hbefore : ∀ r, (s.shuts k).pc ≠ .returned r) (r : Option Err) (hafter : (s'.shuts k).pc = .returned r) :
    (l = .shutRecovered k ∧ s.doneClosed = true ∧ r = some .closed) ∨
    (l = .shutSeeClosed k ∧ s.closedClosed = true ∧ r = none) ∨
    (l = .shutCtx k ∧ (s.shuts k).ctxDone = true ∧ r = some (.ctx k)) := by
  have hi := (reachable_all h).1
  cases step_trans hi hs with
  | shutRecovered j hpc hd =>
    obtain ⟨rfl, e⟩ := shut_returned_upd hbefore hafter
    cases e; exact Or.inl ⟨rfl, hd, rfl⟩
  | shutSeeClosed j hpc hcc =>
    obtain ⟨rfl, e⟩ := shut_returned_upd hbefore hafter
    cases e; exact Or.inr (Or.inl ⟨rfl, hcc, rfl⟩)
  | shutCtx j hpc hx =>
    obtain ⟨rfl, e⟩ := shut_returned_upd hbefore hafter
    cases e; exact Or.inr (Or.inr ⟨rfl, hx, rfl⟩)
  | shutCall j | shutClose j => cases (shut_returned_upd hbefore hafter).2
  | shutCancel j =>
    obtain ⟨rfl, e⟩ := shut_returned_upd hbefore hafter
    exact absurd e (hbefore r)
  | _ => exact absurd hafter (hbefore r)

/-- **`closeSubscribers` as translated** (what the loop's deferred exit runs): whatever the order in which the map of
subscribers is ranged over, afterwards none of the visited keys is a subscriber any more, and — for a duplicate-free
order — the channel log has grown by exactly one close per subscriber that was registered, in that order: every pending
`Subscribe` is released, no channel is closed twice (a second close would panic). `removeSubscriber` (`removeSpec`) does
nothing to a key that is not registered — the guard that makes a late unsubscription harmless. -/
theorem translated_closeSubscribers {σ : Type} (fuel : Nat) (j : Gen.Joe σ) (order : List Nat) (hf : order.length < fuel)
    (hnd : order.Nodup) :
    ∃ j', Gen.Joe_closeSubscribers fuel j order = .ok j' ∧
      (∀ k ∈ order, GoRT.mapGet j'.subscribers k = none) ∧
      j'.chlog = j.chlog ++ (order.filter fun k => (GoRT.mapGet j.subscribers k).isSome).map GoRT.ChanOp.close :=
  ⟨_, GenEquiv.closeSubscribers_eq fuel j order hf, fun k hk => GenEquiv.closeFold_gone order j k hk,
    GenEquiv.closeFold_log order j hnd⟩

theorem translated_removeSubscriber {σ : Type} (fuel : Nat) (j : Gen.Joe σ) (k : Nat) :
    Gen.Joe_removeSubscriber fuel j k = .ok (GenEquiv.removeSpec j k) :=
  GenEquiv.removeSubscriber_eq fuel j k

end GoSSE.Props.C07
