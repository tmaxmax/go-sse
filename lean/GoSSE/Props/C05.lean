import GoSSE.Proofs.E2E
import GoSSE.Props.C06
/-!
# C05 — end to end: no event lost, duplicated or reordered across reconnects

A composition over the component theorems (DESIGN.md §6/C05), not a new model:

* the body of session *n* is the concatenation of the encodings of what the session's `Send` calls
  wrote (C16 `body_is_concat_of_encodings`), and those are the log entries after the presented ID,
  contiguous, in order (C04 `resume_exact`, C03 `delivery_exact`);
* the client sees a *prefix* of that body — cut anywhere — and dispatches exactly the messages that lie
  wholly inside the prefix (`prefix_decodes_complete_messages` below, with C01 for go-sse's own parser);
* it remembers the ID of the last dispatched event and presents it next (C10);
* hence the concatenation over all sessions is the published sequence, each event once, in order
  (`sessions_compose`);
* the server survives every cut: `net/http` turns a failed write into a cancellation of the request
  context, and Joe never panics under any interleaving of failure and cancellation (`C06.never_panics`).

`net/http`'s framing and cancellation behaviour are observed by the end-to-end harness, not modelled.
-/
namespace GoSSE.Props.C05
open GoSSE GoSSE.Spec GoSSE.Model GoSSE.Proofs

/-- **A cut body decodes to exactly the complete messages inside it.** Take any messages built through the
API (`WF`), the concatenation `W` of their encodings, and *any* prefix of `W` (a connection cut after `n`
bytes, anywhere: inside a field, between the two newlines ending an event, …) ended by a read error.
A spec-conforming client dispatches exactly the events of the first `k` messages, for the `k` such that
those `k` encodings lie wholly inside the prefix — nothing of the message that was cut. -/
theorem prefix_decodes_complete_messages (mode : Mode) (id₀ : Bytes) (ms : List Message) (h : ∀ m ∈ ms, WF m) (n : Nat) :
    ∃ k, k ≤ ms.length ∧
      (Spec.run mode false id₀ ((ms.flatMap Message.encode).take n) .err).1 = expected mode id₀ ((ms.take k).map builtOf) ∧
      (ms.take k).flatMap Message.encode <+: (ms.flatMap Message.encode).take n := by
  have hnl : ∀ l ∈ ms.flatMap msgLines, NlFree l := by
    intro l hl
    obtain ⟨m, hm, hlm⟩ := List.mem_flatMap.mp hl
    exact msgLines_nlFree m (h m hm) l hlm
  rw [flatMap_encode]
  obtain ⟨j, r, ht, hr⟩ := take_term (ms.flatMap msgLines) n
  obtain ⟨k, q, hk, hk2, hq⟩ := take_flatMap_msgLines ms j
  refine ⟨k, hk, ?_, ?_⟩
  · -- no BOM at the start of a prefix of encodings
    have hbom : stripBOM ((term (ms.flatMap msgLines)).take n) = (term (ms.flatMap msgLines)).take n := by
      unfold stripBOM
      rw [if_neg]
      intro hp
      have := List.isPrefixOf_iff_prefix.2 ((List.isPrefixOf_iff_prefix.1 hp).trans (List.take_prefix n _))
      rw [← flatMap_encode, bom_flatMap_encode] at this
      cases this
    have hrfree : NlFree r := by
      rcases hr with rfl | ⟨l, hl, hp⟩
      · exact nlFree_nil
      · exact fun b hb => hnl l hl b (hp.subset hb)
    have hsplit : splitLines ((term (ms.flatMap msgLines)).take n) [] false = ((ms.flatMap msgLines).take j, r) := by
      rw [ht, splitLines_term _ _ (fun l hl => hnl l (List.mem_of_mem_take hl)), splitLines_noNl r [] hrfree]
      simp
    unfold Spec.run
    rw [hbom, hsplit]
    simp only
    rw [hk2, interp_append]
    obtain ⟨id', hi⟩ := interp_flatMap_msgLines mode id₀ (ms.take k)
    have e0 : ({ lastID := id₀ } : IState) = clean id₀ := rfl
    rw [e0, hi]
    simp only
    rw [interp_nonblank_silent mode _ _ hq]
    simp
  · rw [ht, hk2, term_append, List.append_assoc]
    rw [flatMap_encode]
    exact List.prefix_append _ _

/-- When the handler returns after whole messages (a clean end of the body at a message boundary)
the client dispatches exactly those messages (this is C02's headline, restated for a session). -/
theorem clean_end_decodes_all (mode : Mode) (id₀ : Bytes) (ms : List Message) (h : ∀ m ∈ ms, WF m) :
    Spec.run mode false id₀ (ms.flatMap Message.encode) .eof = (expected mode id₀ (ms.map builtOf), .clean) :=
  run_flatMap_encode mode id₀ ms h

/-- **Sessions compose** (see `GoSSE.Proofs.sessions_compose`): with unique event IDs, however many
sessions there are and however little each delivers before it is cut, what the client dispatched over all
of them is exactly the log after the ID it started from — in order, each entry once. -/
theorem sessions_compose {ι : Type} [DecidableEq ι] (L : List ι) (hn : L.Nodup) (cur : ι) (hc : cur ∈ L) (ks : List Nat) :
    (playSessions L cur ks).1 = (afterG L cur).take ks.sum :=
  GoSSE.Proofs.sessions_compose L hn cur hc ks

/-- non-vacuity / illustration: three sessions delivering 1, 0 and 2 events -/
example : (playSessions [10, 11, 12, 13, 14] 10 [1, 0, 2]).1 = [11, 12, 13] := by decide

/-- **The server survives every cut**: whatever write fails and whatever context gets cancelled, in
whatever order, Joe's goroutine neither panics nor blocks forever (C06). -/
theorem server_survives {c : Joe.Cfg} {s : Joe.St} (h : Joe.Reachable c s) : s.joe ≠ .panicked ∧ s.joe ≠ .blocked :=
  C06.never_panics h

end GoSSE.Props.C05
